/-
  SV.Model.Checksum — `schwifty/checksum/__init__.py`: numerify, weighted (iso7064 and luhn are in
  `SV.Model.National`).
-/
import SV.Model.Regex
namespace SV

/-- `_alphabet.index(c)` for `_alphabet = digits + ascii_uppercase`; `none` is `ValueError`. -/
def alphaIndex (c : Nat) : Option Nat :=
  if isAsciiDigit c then some (c - 48)
  else if isAsciiUpper c then some (c - 55)
  else none

/-- Fold step of `int("".join(str(_alphabet.index(c)) for c in value))`:
    accumulator = (value so far, number of decimal digits written so far). -/
def numStep (acc : Nat × Nat) (i : Nat) : Nat × Nat :=
  if i < 10 then (acc.1 * 10 + i, acc.2 + 1) else (acc.1 * 100 + i, acc.2 + 2)

/-- Value and digit count of the expansion, `none` if a character is outside the alphabet. -/
def expand : Str → Nat × Nat → Option (Nat × Nat)
  | [], acc => some acc
  | c :: t, acc =>
    match alphaIndex c with
    | some i => expand t (numStep acc i)
    | none => none

/-- `checksum.numerify` (after the repair: `ValueError` from `str.index` / `int` — a character
    outside `[0-9A-Z]`, the empty string, more digits than `sys.get_int_max_str_digits()` —
    is raised as `InvalidStructure`). -/
def numerify (U : Unicode) (s : Str) : Res Nat :=
  match expand s (0, 0) with
  | some (v, n) => if n = 0 || U.maxIntDigits < n then .err .invalidStructure else .ok v
  | none => .err .invalidStructure

/-- `f"{n:02d}"` for a natural number. -/
def fmt02 (n : Nat) : Str := if n < 10 then [48, 48 + n] else natToDigits n

/-- `checksum.weighted(value, mod, weights)`:
    `sum(n * int(c) for n, c in zip(weights, value)) % mod` (zip truncates). -/
def weightedSum (U : Unicode) : List Nat → Str → Res Nat
  | w :: ws, c :: t => do
    let d ← U.intChar c
    let r ← weightedSum U ws t
    pure (w * d + r)
  | _, _ => .ok 0

def weighted (U : Unicode) (value : Str) (mod : Nat) (weights : List Nat) : Res Nat := do
  let s ← weightedSum U weights value
  pure (s % mod)

end SV
