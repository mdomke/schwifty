/-
  SV.Model.Germany — `schwifty/checksum/germany.py`.

  One engine mirrors the template-method structure of `WeightedModulus`.  The class attributes
  and, per hook, the chain of implementing functions along the MRO are *data* supplied by the
  translator (`SV.Gen.Algorithms`); the body belonging to each function tag is written here.
  `self.remainder` is threaded explicitly (`Scratch`), exactly where Python reads and writes it.
-/
import SV.Model.National
namespace SV

/-- Function tags: `<class>.<hook>` for every function of `germany.py` that implements a hook.
    `unknown` is emitted by the translator for a function it does not know; it evaluates to a
    crash, so nothing can be proved about a method that uses it. -/
inductive ComputeTag | wm | a08 | a09 | a91 | unknown deriving DecidableEq, Repr, Inhabited
inductive ValidateTag | wm | a08 | a09 | a16 | a25 | a63 | a68 | a76 | a91 | a99 | unknown
  deriving DecidableEq, Repr, Inhabited
inductive AdjustTag | wm | a26 | unknown deriving DecidableEq, Repr, Inhabited
inductive DigitsTag | wm | a24 | a61 | a68 | a76 | unknown deriving DecidableEq, Repr, Inhabited
inductive PositionsTag | wm | a88 | unknown deriving DecidableEq, Repr, Inhabited
inductive WSumTag | wm | a17 | unknown deriving DecidableEq, Repr, Inhabited
inductive SummandTag | wm | a00 | a17 | a22 | a24 | a63 | unknown
  deriving DecidableEq, Repr, Inhabited
inductive RemainderTag | wm | a21 | unknown deriving DecidableEq, Repr, Inhabited
inductive ReconcileTag | wm | a02 | a11 | a76 | unknown deriving DecidableEq, Repr, Inhabited

/-- `germany.Positions` (1-based, as in the Bundesbank text). -/
structure Positions where
  start : Nat
  stop : Nat
  checkDigit : Nat
  deriving DecidableEq, Repr, Inhabited

/-- MRO-resolved class attributes and hook chains of one registered class. -/
structure DEParams where
  modulus : Nat
  minuend : Option Nat
  positions : Positions
  reverse : Bool
  weights : List Nat
  minAccount : Nat            -- `min_account_code` (method 08), 0 where absent
  compute : List ComputeTag
  validate : List ValidateTag
  adjustInput : List AdjustTag
  getDigits : List DigitsTag
  getPositions : List PositionsTag
  weightedSum : List WSumTag
  summand : List SummandTag
  remainder : List RemainderTag
  reconcile : List ReconcileTag
  /-- `Algorithm91.Variant1 … Variant4` (empty for every other class). -/
  variants : List DEParams
  deriving Repr, Inhabited

/-- The per-instance scratch state (`self.remainder`; `self.weighted_sum` is never written
    after `__init__`). -/
structure Scratch where
  remainder : Int
  deriving DecidableEq, Repr, Inhabited

/-- State-passing computations over the scratch cell; the state survives an exception. -/
abbrev DEM (α : Type) := Scratch → Scratch × Res α

namespace DEM
@[inline] def pure' {α : Type} (a : α) : DEM α := fun s => (s, .ok a)
@[inline] def bind' {α β : Type} (m : DEM α) (f : α → DEM β) : DEM β := fun s =>
  match m s with
  | (s', .ok a) => f a s'
  | (s', .err e) => (s', .err e)
  | (s', .crash c) => (s', .crash c)
instance : Monad DEM where
  pure := pure'
  bind := bind'
@[inline] def lift {α : Type} (r : Res α) : DEM α := fun s => (s, r)
@[inline] def getRem : DEM Int := fun s => (s, .ok s.remainder)
@[inline] def setRem (v : Int) : DEM Unit := fun _ => (⟨v⟩, .ok ())
@[inline] def fail {α : Type} (e : Err) : DEM α := fun s => (s, .err e)
@[inline] def crash {α : Type} (c : Crash) : DEM α := fun s => (s, .crash c)
end DEM
open DEM

/-- `int(s)` for a string of decimal digits (of any script; `int` accepts them all).  Anything
    else is reported as `ValueError`; Python's `int` additionally accepts a sign, underscores
    between digits and surrounding whitespace — those inputs are outside the modelled domain
    (they cannot occur in an account number that passed the structure check). -/
def pyIntStr (U : Unicode) : Str → Nat → Bool → Res Nat
  | [], v, seen => if seen then .ok v else .crash .valueError
  | c :: t, v, _ =>
    match U.intChar c with
    | .ok d => pyIntStr U t (v * 10 + d) true
    | _ => .crash .valueError

/-- `s[i]` for a Python index that may be negative. -/
def pyIndex (s : Str) (i : Int) : Res Nat :=
  let j : Int := if i < 0 then i + s.length else i
  if j < 0 then .crash .indexError
  else match s[j.toNat]? with
    | some c => .ok c
    | none => .crash .indexError

/-- `str(n)` for an integer. -/
def intToStr (n : Int) : Str :=
  if n < 0 then 45 :: natToDigits n.natAbs else natToDigits n.toNat

def adjustInput : List AdjustTag → Str → Res Str
  | .wm :: _, a => .ok a
  | .a26 :: _, a => .ok (if startsWith a [48, 48] then a.drop 2 ++ [48, 48] else a)
  | _, _ => .crash .other

def getPositions (P : DEParams) : List PositionsTag → Str → Res Positions
  | .wm :: _, _ => .ok P.positions
  | .a88 :: rest, a =>
    match a[2]? with
    | some c => if c = 57 then .ok ⟨3, 9, 10⟩ else getPositions P rest a
    | none => .crash .indexError
  | _, _ => .crash .other

/-- `WeightedModulus.get_digits`. -/
def wmGetDigits (P : DEParams) (a : Str) : Res Str := do
  let pos ← getPositions P P.getPositions a
  -- start, end = positions.start - 1, positions.end ; three asserts
  if a.length ≠ 10 then .crash .assertionError
  else if pos.start = 0 then .crash .assertionError          -- start - 1 = -1 < 0
  else if 10 < pos.start - 1 then .crash .assertionError
  else if pos.stop < pos.start - 1 || 10 < pos.stop then .crash .assertionError
  else
    let d := slice a (pos.start - 1) pos.stop
    pure (if P.reverse then d.reverse else d)

def getDigits (U : Unicode) (P : DEParams) : List DigitsTag → Str → Res Str
  | .wm :: _, a => wmGetDigits P a
  | .a24 :: rest, a => do
    let d ← getDigits U P rest a
    match d with
    | [] => .crash .indexError
    | c :: _ => do
      let v ← U.intChar c
      let d' := if v = 3 || v = 4 || v = 5 || v = 6 then d.drop 1
                else if v = 9 then d.drop 3 else d
      pure (lstrip0 d')
  | .a61 :: rest, a => do
    let d ← getDigits U P rest a
    match a[8]? with
    | none => .crash .indexError
    | some c => pure (if c = 56 then (a.drop 8).reverse ++ d else d)
  | .a68 :: rest, a => do
    let d ← getDigits U P rest a
    let d := rstrip0 d
    if d.length = 9 then
      match d[5]? with
      | some c => if c ≠ 57 then .err .invalidBBANChecksum else pure (d.take 6)
      | none => .crash .indexError
    else pure d
  | .a76 :: rest, a => do
    let d ← getDigits U P rest a
    pure (rstrip0 d)
  | _, _ => .crash .other

/-- `compute_summand(digit, weight)`; digits and weights are non-negative, so are all summands
    (`digit_sum` of a non-negative number never meets a `'-'`). -/
def summand : List SummandTag → Nat → Nat → Res Nat
  | .wm :: _, d, w => .ok (d * w)
  | .a00 :: rest, d, w => do let x ← summand rest d w; pure (digitSum x)
  | .a17 :: rest, d, w => do let x ← summand rest d w; pure (digitSum x)
  | .a63 :: rest, d, w => do let x ← summand rest d w; pure (digitSum x)
  | .a22 :: rest, d, w => do let x ← summand rest d w; pure (x % 10)
  | .a24 :: rest, d, w => do let x ← summand rest d w; pure ((x + w) % 11)
  | _, _, _ => .crash .other

/-- `sum(self.compute_summand(int(d), w) for d, w in zip(digits, cycle(self.weights)))`. -/
def wmWeightedSum (U : Unicode) (P : DEParams) : Str → List Nat → Res Nat
  | c :: t, w :: ws => do
    let d ← U.intChar c
    let x ← summand P.summand d w
    let r ← wmWeightedSum U P t ws
    pure (x + r)
  | _, _ => .ok 0

/-- The (non-negative) weighted sum as a Python `int`. -/
def natToInt (n : Nat) : Int := n

def weightedSumHook (U : Unicode) (P : DEParams) : List WSumTag → Str → Res Int
  | .wm :: _, ds => do
    let x ← wmWeightedSum U P ds (cycleWeights P.weights ds.length)
    pure (natToInt x)
  | .a17 :: rest, ds => do let x ← weightedSumHook U P rest ds; pure (x - 1)
  | _, _ => .crash .other

/-- `while number >= 10: number = digit_sum(number)` with fuel (the value strictly decreases). -/
def reduceDigits : Nat → Int → Int
  | 0, n => n
  | f + 1, n => if n ≥ 10 then reduceDigits f (digitSum n.toNat) else n

def remainderHook (P : DEParams) : List RemainderTag → Int → Res Int
  | .wm :: _, n => if P.modulus = 0 then .crash .other else .ok (n % P.modulus)
  | .a21 :: _, n => .ok (reduceDigits n.toNat n)
  | _, _ => .crash .other

def reconcile : List ReconcileTag → Int → DEM Int
  | .wm :: _, c => pure (if c ≥ 10 then 0 else c)
  | .a02 :: _, c => do
    let r ← getRem
    if r = 0 then pure 0
    else if r = 1 then fail .invalidBBANChecksum
    else pure c
  | .a11 :: rest, c => if c = 10 then pure 9 else reconcile rest c
  | .a76 :: _, c => if c = 10 then fail .invalidBBANChecksum else pure c
  | _, _ => crash .other

/-- `WeightedModulus.compute`. -/
def wmCompute (U : Unicode) (P : DEParams) (cs : List Str) : DEM Str :=
  match cs with
  | [a] => do
    let a' ← lift (adjustInput P.adjustInput a)
    let ds ← lift (getDigits U P P.getDigits a')
    let ws ← lift (weightedSumHook U P P.weightedSum ds)
    let r ← lift (remainderHook P P.remainder ws)
    setRem r
    let r' ← getRem
    let c : Int := match P.minuend with
      | none => r'
      | some m => (m : Int) - r'
    let c' ← reconcile P.reconcile c
    pure (intToStr c')
  | _ => crash .valueError

/-- The `compute` hook chain of a class without nested variants (depth 0): what every class runs
    (`computeM`), `Algorithm91` on its `Variant1`. -/
def computeHook0 (U : Unicode) (P : DEParams) : List ComputeTag → List Str → DEM Str
  | .wm :: _, cs => wmCompute U P cs
  | .a08 :: rest, cs =>
    match cs with
    | [a] => do
      let n ← lift (pyIntStr U a 0 false)
      if n < P.minAccount then pure [] else computeHook0 U P rest cs
    | _ => crash .valueError
  | .a09 :: _, _ => pure []
  | _, _ => crash .other

/-- `check_digit == account_code[k - 1]`. -/
def cmpCheck (cd : Str) (a : Str) (k : Nat) : DEM Bool := do
  let c ← lift (pyIndex a ((k : Int) - 1))
  pure (cd == [c])

def validateHook0 (U : Unicode) (P : DEParams) (comp : List Str → DEM Str) :
    List ValidateTag → List Str → DEM Bool
  | .wm :: _, cs =>
    match cs with
    | [] => crash .indexError
    | a0 :: _ => do
      let a ← lift (adjustInput P.adjustInput a0)
      let cd ← comp cs
      let pos ← lift (getPositions P P.getPositions a)
      cmpCheck cd a pos.checkDigit
  | .a08 :: rest, cs =>
    match cs with
    | [a] => do
      let n ← lift (pyIntStr U a 0 false)
      if n < P.minAccount then pure true else validateHook0 U P comp rest cs
    | _ => crash .valueError
  | .a09 :: _, _ => pure true
  | .a16 :: _, cs =>
    match cs with
    | [a] => do
      let cd ← comp cs
      let idx : Int := (P.positions.checkDigit : Int) - 1
      let r ← getRem
      if r = 1 then
        let x ← lift (pyIndex a (idx - 1))
        let y ← lift (pyIndex a idx)
        if x = y then pure true
        else do let c ← lift (pyIndex a idx); pure (cd == [c])
      else do let c ← lift (pyIndex a idx); pure (cd == [c])
    | _ => crash .valueError
  | .a25 :: rest, cs => do
    let result ← validateHook0 U P comp rest cs
    match cs with
    | [a] => do
      let r ← getRem
      if r = 1 then
        let c ← lift (pyIndex a 1)
        if c ≠ 56 && c ≠ 57 then pure false else pure result
      else pure result
    | _ => crash .valueError
  | .a63 :: rest, cs =>
    match cs with
    | [a] => do
      let c ← lift (pyIndex a 0)
      if c ≠ 48 then pure false else validateHook0 U P comp rest cs
    | _ => crash .valueError
  | .a68 :: rest, cs =>
    match cs with
    | [a] => do
      let n ← lift (pyIntStr U a 0 false)
      if 400000000 ≤ n && n ≤ 499999999 then pure true
      else do
        let ok ← validateHook0 U P comp rest cs
        if ok then pure true
        else do
          let cd ← comp [a.take 2 ++ [48, 48] ++ a.drop 4]
          cmpCheck cd a P.positions.checkDigit
    | _ => crash .valueError
  | .a76 :: rest, cs =>
    match cs with
    | [a] => do
      let c ← lift (pyIndex a 0)
      let v ← lift (U.intChar c)
      if v = 0 || v = 4 || v = 6 || v = 7 || v = 8 || v = 9 then validateHook0 U P comp rest cs
      else pure false
    | _ => crash .valueError
  | .a99 :: rest, cs =>
    match cs with
    | [a] => do
      let n ← lift (pyIntStr U a 0 false)
      if 396000000 ≤ n && n ≤ 499999999 then pure true else validateHook0 U P comp rest cs
    | _ => crash .valueError
  | _, _ => crash .other

/-- `algo_cls().validate(...)` on a fresh instance: its own scratch cell, discarded afterwards. -/
def freshValidate (U : Unicode) (V : DEParams) (cs : List Str) : Res Bool :=
  (validateHook0 U V (computeHook0 U V V.compute) V.validate cs ⟨0⟩).2

def variantsAny (U : Unicode) : List DEParams → List Str → Res Bool
  | [], _ => .ok false
  | V :: rest, cs =>
    match freshValidate U V cs with
    | .ok true => .ok true
    | .ok false => variantsAny U rest cs
    | .err e => .err e
    | .crash c => .crash c

/-- `compute` of a registered class. -/
def DEParams.computeM (U : Unicode) (P : DEParams) (cs : List Str) : DEM Str :=
  match P.compute with
  | .a91 :: _ =>
    match P.variants with
    | V :: _ => lift ((computeHook0 U V V.compute cs ⟨0⟩).2)
    | [] => crash .other
  | tags => computeHook0 U P tags cs

/-- `validate` of a registered class. -/
def DEParams.validateM (U : Unicode) (P : DEParams) (cs : List Str) : DEM Bool :=
  match P.validate with
  | .a91 :: _ => lift (variantsAny U P.variants cs)
  | tags => validateHook0 U P (P.computeM U) tags cs

end SV
