/-
  SV.Model.Bban — `schwifty/bban.py` (everything except `random`, which is in `Random.lean`).
-/
import SV.Model.Bic
namespace SV

/-- What is registered under a key of `checksum.algorithms`. -/
inductive AlgoRef
  | nat (a : NatAlgo)
  | de (p : DEParams)
  | unknown
  deriving Repr, Inhabited

structure AlgoEntry where
  /-- `"<country>:<name>"` -/
  key : Str
  ref : AlgoRef
  /-- the class's `accepts` -/
  accepts : List Component
  deriving Repr, Inhabited

abbrev AlgoTable := List AlgoEntry

def AlgoTable.get (A : AlgoTable) (key : Str) : Option AlgoEntry := A.find? (fun e => e.key == key)

/-- Everything the library reads that is not an argument. -/
structure Ctx where
  U : Unicode
  T : Table
  R : Registry
  A : AlgoTable
  B : BicCtx

-- A registered German class is one long-lived instance, so a call finds in `self.remainder` what
-- the previous call left; the model starts every call at `⟨0⟩`.  Nothing hangs on the value: the C07
-- method theorems hold from every incoming scratch state, `compute` writes the cell before
-- `reconcile` reads it (`wmCompute_eval`), and for `Algorithm25.validate`, which reads it afterwards,
-- `validate_a25_scratch` says so.
def AlgoRef.compute (U : Unicode) : AlgoRef → List Str → Res Str
  | .nat a, cs => a.compute U cs
  | .de p, cs => (p.computeM U cs ⟨0⟩).2
  | .unknown, _ => .crash .other

def AlgoRef.validate (U : Unicode) : AlgoRef → List Str → Str → Res Bool
  | .nat a, cs, ex => a.validate U cs ex
  | .de p, cs, _ => (p.validateM U cs ⟨0⟩).2
  | .unknown, _, _ => .crash .other

/-- `_get_bban_spec`. -/
def bbanSpec (T : Table) (cc : Str) : Res Country :=
  match T.lookup cc with
  | some e => .ok e
  | none => .err .invalidCountryCode

/-- `BBAN._get_component`. -/
def BBAN.component (T : Table) (cc bban : Str) (k : Component) : Res Str := do
  let e ← bbanSpec T cc
  let r := e.range k
  pure (getSlice bban r.start (some r.stop))

def componentsOf (e : Country) (bban : Str) : List Component → List Str
  | [] => []
  | k :: t => getSlice bban (e.range k).start (some (e.range k).stop) :: componentsOf e bban t

/-- The registry key of a BBAN: `"".join(self._get_component(c) for c in lookup_by)`. -/
def lookupKey (e : Country) (bban : Str) : Str :=
  joinStrs (componentsOf e bban (e.bicLookup.getD [.bankCode]))

/-- `BBAN.bank`. -/
def BBAN.bank (X : Ctx) (cc bban : Str) : Res (Option BankEntry) := do
  let e ← bbanSpec X.T cc
  match X.R.byBankCode cc (lookupKey e bban) with
  | some (b :: _) => pure (some b)
  | _ => pure none

/-- `BBAN.bic`. -/
def BBAN.bic (X : Ctx) (cc bban : Str) : Res (Option Str) := do
  let e ← bbanSpec X.T cc
  match BIC.fromBankCode X.B X.R cc (lookupKey e bban) with
  | .ok b => pure (some b)
  | .err _ => pure none
  | .crash c => .crash c

def colon : Nat := 58
def strDefault : Str := [100, 101, 102, 97, 117, 108, 116]   -- "default"

/-- `BBAN.validate_national_checksum`. -/
def BBAN.validateNational (X : Ctx) (cc bban : Str) : Res Bool := do
  let bank ← BBAN.bank X cc bban
  let algoName : Str := match bank with
    | some b => b.checksumAlgo.getD strDefault
    | none => strDefault
  match X.A.get (cc ++ [colon] ++ algoName) with
  | none => pure true
  | some a => do
    let e ← bbanSpec X.T cc
    let comps := componentsOf e bban a.accepts
    let natl := getSlice bban (e.range .nationalChecksumDigits).start
                  (some (e.range .nationalChecksumDigits).stop)
    let ok ← a.ref.validate X.U comps natl
    if ok then pure true else .err .invalidBBANChecksum

/-- `compute_national_checksum` (with the repair: `ValueError` / `LookupError` from the
    algorithm are raised as `InvalidStructure`). -/
def computeNationalChecksum (X : Ctx) (cc : Str) (comps : Component → Str) : Res Str :=
  match X.A.get (cc ++ [colon] ++ strDefault) with
  | none => .ok []
  | some a => (a.ref.compute X.U (a.accepts.map comps)).translate .invalidStructure

/-- The `components` dict of `from_components` as a function on `Component`. -/
def Comps := Component → Str

def Comps.set (c : Comps) (k : Component) (v : Str) : Comps := fun k' => if k' = k then v else c k'

/-- `bban[:start] + value + bban[end:]`. -/
def overlay (b : Str) (r : Range) (v : Str) : Str := b.take r.start ++ v ++ b.drop r.stop

def overlayAll (e : Country) (c : Comps) : List Component → Str → Str
  | [], b => b
  | k :: t, b =>
    let r := e.range k
    overlayAll e c t (if r.isEmpty then b else overlay b r (c k))

/-- `values.get(key, "")` for the keyword arguments of `from_components`. -/
def valuesGet (values : List (Component × Str)) (k : Component) : Str :=
  (values.lookup k).getD []

/-- `BBAN.from_components`: the compact string of the new BBAN. -/
def BBAN.fromComponents (X : Ctx) (cc : Str) (values : List (Component × Str)) : Res Str := do
  let e ← bbanSpec X.T cc
  if e.positions.isNone then .err .schwifty
  else
    let c0 : Comps := fun k => zfill (clean X.U (valuesGet values k)) (e.range k).length
    let bankLen := (e.range .bankCode).length
    let branchLen := (e.range .branchCode).length
    let accountLen := (e.range .accountCode).length
    let c1 : Comps :=
      if branchLen > 0 && clean X.U (valuesGet values .branchCode) == []
          && (c0 .bankCode).length == bankLen + branchLen then
        (c0.set .branchCode (slice (c0 .bankCode) bankLen (bankLen + branchLen))).set
          .bankCode ((c0 .bankCode).take bankLen)
      else c0
    if (c1 .bankCode).length > bankLen then .err .invalidBankCode
    else if (c1 .branchCode).length > branchLen then .err .invalidBranchCode
    else if (c1 .accountCode).length > accountLen then .err .invalidAccountCode
    else do
      let cs ← computeNationalChecksum X cc c1
      let c2 : Comps := if cs != [] then c1.set .nationalChecksumDigits cs else c1
      let b := overlayAll e c2 Component.all (List.replicate e.bbanLength 48)
      pure (clean X.U b)

end SV
