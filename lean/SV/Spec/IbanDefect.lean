/-
  The ISO 13616 rule set in two parts — structure, checksum — and the defect each error class of
  `IBAN.validate` names.  Executable, so that `Spec.All` can offer them to the failing-input search.
-/
import SV.Spec.Iso13616
namespace SV
open Spec

def Spec.structureOk (T : Table) (c : Str) : Bool :=
  match T.lookup (c.take 2) with
  | none => false
  | some e => isAsciiDigit (c.getD 2 0) && isAsciiDigit (c.getD 3 0) && fits e (c.drop 4)

/-- The mod-97 condition with canonical check digits. -/
def Spec.checksumOk (c : Str) : Bool :=
  numVal (c.drop 4 ++ c.take 4) 0 % 97 == 1 && decide (2 ≤ ddVal c) && decide (ddVal c ≤ 98)

/-- The defect an error class names (for the pipeline without national validation). -/
def Spec.ibanDefect (T : Table) (k : Err) (c : Str) : Prop :=
  match k with
  | .invalidCountryCode => T.lookup (c.take 2) = none
  | .invalidLength => ∃ e, T.lookup (c.take 2) = some e ∧ c.length ≠ e.bbanLength + 4
  | .invalidStructure => structureOk T c = false
  | .invalidChecksumDigits => structureOk T c = true ∧ checksumOk c = false
  | _ => False

end SV
