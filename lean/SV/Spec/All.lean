/-
  SV.Spec.All — dispatcher of the executable specifications for the driver (`spec.*` ops).
-/
import SV.Protocol
import SV.Spec.Iso13616
import SV.Spec.Iso9362
import SV.Spec.IbanDefect
import SV.Spec.National
namespace SV.Spec

/-- Boolean form of `ibanDefect` (by error-class name). -/
def ibanDefectB (T : Table) (k : String) (c : Str) : Option Bool :=
  match k with
  | "InvalidCountryCode" => some (T.lookup (c.take 2)).isNone
  | "InvalidLength" => some (match T.lookup (c.take 2) with
      | some e => c.length != e.bbanLength + 4
      | none => false)
  | "InvalidStructure" => some (!structureOk T c)
  | "InvalidChecksumDigits" => some (structureOk T c && !checksumOk c)
  | _ => none

/-- The defect a BIC error class names. -/
def bicDefectB (iso : List Str) (k : String) (strict : Bool) (c : Str) : Option Bool :=
  let lenOk := c.length == 8 || c.length == 11
  let structOk := iso9362 [(c.drop 4).take 2] strict c
  match k with
  | "InvalidLength" => some (!lenOk)
  | "InvalidStructure" => some (lenOk && !structOk)
  | "InvalidCountryCode" => some (structOk && !iso.contains ((c.drop 4).take 2))
  | _ => none

/-- The published national rule, for the ISO 7064 countries and Belgium only (prefix lengths as in
    `SV.Props.C06.live_iso_default` etc.); the other rules of `SV.Spec.National` are not offered. -/
def nationalB (cc : String) (b : Str) : Option Bool :=
  match cc with
  | "BA" => some (mod97_98 b 14) | "ME" => some (mod97_98 b 16) | "MK" => some (mod97_98 b 13)
  | "PT" => some (mod97_98 b 19) | "RS" => some (mod97_98 b 16) | "SI" => some (mod97_98 b 13)
  | "TL" => some (mod97_98 b 17) | "MR" => some (mod97_97 b 21) | "TN" => some (mod97_97 b 18)
  | "BE" => some (belgium b)
  | _ => none

/-- `spec.*` operations. -/
def dispatch (X : Ctx) (op : String) (args : List String) : Option String :=
  match op, args with
  | "spec.iban_valid", [t] => do
    -- the argument is the raw text; the Spec is about its cleaned form
    let t ← parseStr t
    pure ("ok " ++ showBool (isoValid X.T (clean X.U t)))
  | "spec.check_digits", [cc, b] => do
    let cc ← parseStr cc
    let b ← parseStr b
    pure ("ok " ++ showStr (fmt02 (checkDigits cc b)))
  | "spec.fits", [cc, b] => do
    let cc ← parseStr cc
    let b ← parseStr b
    match X.T.lookup cc with
    | some e => pure ("ok " ++ showBool (fits e b))
    | none => pure "none"
  | "spec.national", [cc, b] => do
    let cc ← parseStr cc
    let b ← parseStr b
    match nationalB (String.ofList (cc.map Char.ofNat)) b with
    | some v => pure ("ok " ++ showBool v)
    | none => pure "none"
  | "spec.bic_valid", [strict, t] => do
    let strict ← parseBool strict
    let t ← parseStr t
    pure ("ok " ++ showBool (iso9362 X.B.iso strict (clean X.U t)))
  | "spec.iban_defect", [k, t] => do
    let t ← parseStr t
    match ibanDefectB X.T k (clean X.U t) with
    | some b => pure ("ok " ++ showBool b)
    | none => pure "ok F"
  | "spec.bic_defect", [k, strict, t] => do
    let strict ← parseBool strict
    let t ← parseStr t
    match bicDefectB X.B.iso k strict (clean X.U t) with
    | some b => pure ("ok " ++ showBool b)
    | none => pure "ok F"
  | _, _ => none

end SV.Spec
