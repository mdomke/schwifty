/-
  SV.Spec.Iso13616 — what the properties say about IBANs, written from the standard and the
  property text, independently of the code's structure.  Executable (Bool-valued), so the same
  definitions serve as the oracle of the failing-input search.
-/
import SV.Model.Iban
namespace SV.Spec

/-- Character classes of an ISO 13616 structure string. -/
inductive SClass | n | a | c | e
  deriving DecidableEq, Repr, Inhabited

/-- Membership of a (cleaned, i.e. upper-cased) character in a class:
    `n` digits 0-9, `a` upper-case letters A-Z, `c` alphanumeric, `e` blank. -/
def SClass.ok : SClass → Nat → Bool
  | .n, x => isAsciiDigit x
  | .a, x => isAsciiUpper x
  | .c, x => isAsciiDigit x || isAsciiUpper x
  | .e, x => x == 32

def SClass.ofChar (ch : Nat) : Option SClass :=
  if ch = 110 then some .n else if ch = 97 then some .a else if ch = 99 then some .c
  else if ch = 101 then some .e else none

/-- Parse a structure string `8!n10!n…` into `(count, class)` items.  `acc` is the count read so
    far (`none` before the first digit).  Only fixed-length items (`!`) are part of the grammar; blanks
    between items carry no meaning in the notation and are skipped (a structure cell with a stray blank
    still describes the same BBANs). -/
def parseSpecAux : Str → Option Nat → Option (List (Nat × SClass))
  | [], none => some []
  | [], some _ => none
  | ch :: t, acc =>
    if isAsciiDigit ch then parseSpecAux t (some (acc.getD 0 * 10 + (ch - 48)))
    else if ch = 33 then
      match acc, t with
      | some k, cl :: t' =>
        match SClass.ofChar cl, parseSpecAux t' none with
        | some c, some rest => some ((k, c) :: rest)
        | _, _ => none
      | _, _ => none
    else if ch = 32 then
      match acc with
      | none => parseSpecAux t none
      | some _ => none
    else none

def parseSpec (s : Str) : Option (List (Nat × SClass)) := parseSpecAux s none

/-- One class per BBAN position. -/
def expandSpec : List (Nat × SClass) → List SClass
  | [] => []
  | (k, c) :: t => List.replicate k c ++ expandSpec t

/-- `b` has exactly the positions of the structure and every character is in its class. -/
def fitsClasses : List SClass → Str → Bool
  | [], [] => true
  | c :: cs, x :: xs => c.ok x && fitsClasses cs xs
  | _, _ => false

/-- A BBAN (in compact form) fits the country's structure string. -/
def fits (e : Country) (b : Str) : Bool :=
  match parseSpec e.bbanSpec with
  | some l => fitsClasses (expandSpec l) b
  | none => false

/-- The number ISO 13616 assigns to a text of digits and upper-case letters: digits stand for
    themselves, `A … Z` for `10 … 35`, concatenated in decimal. -/
def numVal : Str → Nat → Nat
  | [], acc => acc
  | ch :: t, acc => if isAsciiDigit ch then numVal t (acc * 10 + (ch - 48))
                    else numVal t (acc * 100 + (ch - 55))

/-- Value of the check-digit field: `c` is the whole compact IBAN, of which characters 2 and 3 are
    read. -/
def ddVal (c : Str) : Nat := (c.getD 2 48 - 48) * 10 + (c.getD 3 48 - 48)

/-- The ISO 13616 rule set over a country table, for a compact text `c`:
    known country, two check digits, BBAN of the country's length fitting its structure,
    remainder 1 modulo 97 of the rearranged number, and (property C02) check digits in 02..98. -/
def isoValid (T : Table) (c : Str) : Bool :=
  match T.lookup (c.take 2) with
  | none => false
  | some e =>
    c.length == e.bbanLength + 4 &&
    isAsciiDigit (c.getD 2 0) && isAsciiDigit (c.getD 3 0) &&
    fits e (c.drop 4) &&
    numVal (c.drop 4 ++ c.take 4) 0 % 97 == 1 &&
    decide (2 ≤ ddVal c) && decide (ddVal c ≤ 98)

/-- The check digits ISO 7064 mod 97-10 assigns to a country code and BBAN. -/
def checkDigits (cc b : Str) : Nat := 98 - (numVal (b ++ cc) 0 * 100) % 97

end SV.Spec
