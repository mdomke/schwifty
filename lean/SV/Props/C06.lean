/-
  C06 — National check digits are judged by the country's published algorithm.

  Generic part (every table, registry, algorithm table): the return-value contract, monotonicity
  (national validation can only reject), acceptance for countries without an algorithm, and the
  dispatch theorem.  Published-rule equivalences are proved here for the ISO 7064 families
  (BA, ME, MK, PT, RS, SI, TL; MR, TN; BE) against `SV.Spec.National`, through the regenerated
  registration table and positions; for the weighted / Luhn / RIB / CIN algorithms (ES, FR, MC, IT,
  SM, FI, NO, PL, EE, CZ, SK, IS) in `C06Rules.lean`.  `C06Probe.lean` ties the algorithm bodies
  and their constants to the live objects by kernel-checked recorded calls.
-/
import SV.Proofs.National
import SV.Spec.National
import SV.Props.C10
import SV.Proofs.IbanValidate
namespace SV.Props.C06
open SV Spec

/-- The BBAN-level national check reports success as `True` and failure by raising: it never
    returns `False`. -/
theorem returns_true (X : Ctx) (cc b : Str) (v : Bool)
    (h : BBAN.validateNational X cc b = .ok v) : v = true := by
  cases hl : X.T.lookup cc with
  | none => simp [BBAN.validateNational, BBAN.bank, bbanSpec, hl] at h
  | some e =>
    rw [validateNational_eq X hl] at h
    split at h
    · cases h; rfl
    · obtain ⟨ok, -, h⟩ := Res.bind_eq_ok h
      cases ok <;> cases h; rfl

/-- National validation can only reject: whatever is accepted with it is accepted without it. -/
theorem monotone (X : Ctx) (s : Str) (h : (IBAN.new X s false true).isOk = true) :
    (IBAN.new X s false false).isOk = true := by
  rw [IBAN.new_eq, Res.isOk_bind_const] at h ⊢
  rw [IBAN.validate_true_eq] at h
  exact Res.isOk_of_bind h

/-- Countries without a registered algorithm are unaffected: the national check accepts. -/
theorem no_algorithm_accepts (X : Ctx) {cc b : Str} {e : Country} (hl : X.T.lookup cc = some e)
    (hR : ∀ x ∈ X.R, x.countryCode = cc → x.checksumAlgo = none)
    (hA : X.A.get (defaultKey cc) = none) :
    BBAN.validateNational X cc b = .ok true := by
  rw [validateNational_dispatch X hl hR, hA]

/-- Dispatch (see `validateNational_dispatch`): the registered algorithm judges exactly the
    fields it declares, cut at the country's published positions. -/
theorem dispatch (X : Ctx) {cc b : Str} {e : Country} (hl : X.T.lookup cc = some e)
    (hR : ∀ x ∈ X.R, x.countryCode = cc → x.checksumAlgo = none) :
    BBAN.validateNational X cc b =
      match X.A.get (defaultKey cc) with
      | none => .ok true
      | some a =>
        (a.ref.validate X.U (componentsOf e b a.accepts)
          (getSlice b (e.range .nationalChecksumDigits).start
            (some (e.range .nationalChecksumDigits).stop))).bind
          (fun ok => if ok then .ok true else .err .invalidBBANChecksum) :=
  validateNational_dispatch X hl hR

/-- The three `ISO7064_mod97_10` classes: `compute(components) == expected` with `compute` the
    class's `post_process` of `pre_process(components) mod 97`, written with two digits. -/
theorem isoDefault_validate (U : Unicode) (cs : List Str) (ex : Str) :
    NatAlgo.isoDefault.validate U cs ex =
      (isoPre U cs).bind (fun v => .ok (ex == fmt02 (98 - v % 97))) := by
  rw [NatAlgo.validate_inherited U (by decide) (by decide)]; exact Res.bind_assoc ..

theorem isoVariant_validate (U : Unicode) (cs : List Str) (ex : Str) :
    NatAlgo.isoVariant.validate U cs ex =
      (isoPre U cs).bind (fun v => .ok (ex == fmt02 (97 - v % 97))) := by
  rw [NatAlgo.validate_inherited U (by decide) (by decide)]; exact Res.bind_assoc ..

theorem be_validate (U : Unicode) (cs : List Str) (ex : Str) :
    NatAlgo.be.validate U cs ex =
      (isoPre U cs).bind (fun v =>
        .ok (ex == fmt02 (if v / 100 % 97 ≠ 0 then v / 100 % 97 else 97))) := by
  rw [NatAlgo.validate_inherited U (by decide) (by decide)]; exact Res.bind_assoc ..

/-- BA, ME, MK, PT, RS, SI, TL (whichever countries satisfy `prefixAlgo … isoDefault`): the
    national check accepts exactly when the last two characters are `98 − (prefix·100 mod 97)`. -/
theorem iso_default_rule (X : Ctx) (hU : X.U.WF) {cc b : Str} {n : Nat}
    (hp : prefixAlgo X.T X.A .isoDefault cc n = true)
    (hR : ∀ x ∈ X.R, x.countryCode = cc → x.checksumAlgo = none)
    (hlen : b.length = n + 2) (hA : allAlnum b = true) (hmax : 2 * b.length ≤ X.U.maxIntDigits) :
    BBAN.validateNational X cc b =
      if mod97_98 b n then .ok true else .err .invalidBBANChecksum :=
  iso_family X .isoDefault (fun r => 98 - r) id (isoDefault_validate X.U) hp hR hlen hA hmax

/-- MR, TN: `97 − (prefix·100 mod 97)`. -/
theorem iso_variant_rule (X : Ctx) (hU : X.U.WF) {cc b : Str} {n : Nat}
    (hp : prefixAlgo X.T X.A .isoVariant cc n = true)
    (hR : ∀ x ∈ X.R, x.countryCode = cc → x.checksumAlgo = none)
    (hlen : b.length = n + 2) (hA : allAlnum b = true) (hmax : 2 * b.length ≤ X.U.maxIntDigits) :
    BBAN.validateNational X cc b =
      if mod97_97 b n then .ok true else .err .invalidBBANChecksum :=
  iso_family X .isoVariant (fun r => 97 - r) id (isoVariant_validate X.U) hp hR hlen hA hmax

/-- BE: the last two digits are the first ten modulo 97 (0 written as 97). -/
theorem belgium_rule (X : Ctx) (hU : X.U.WF) {cc b : Str}
    (hp : prefixAlgo X.T X.A .be cc 10 = true)
    (hR : ∀ x ∈ X.R, x.countryCode = cc → x.checksumAlgo = none)
    (hlen : b.length = 12) (hA : allAlnum b = true) (hmax : 2 * b.length ≤ X.U.maxIntDigits) :
    BBAN.validateNational X cc b =
      if belgium b then .ok true else .err .invalidBBANChecksum := by
  rw [iso_family X .be (fun r => if r ≠ 0 then r else 97) (· / 100) (be_validate X.U)
    hp hR hlen hA hmax, Nat.mul_div_cancel _ (by decide : 0 < 100)]
  rfl

def bytes (s : String) : Str := s.toList.map Char.toNat

/-- The seven countries registered for the default ISO 7064 algorithm, with the length of the
    prefix their declared fields tile. -/
theorem live_iso_default :
    [("BA", 14), ("ME", 16), ("MK", 13), ("PT", 19), ("RS", 16), ("SI", 13), ("TL", 17)].all
      (fun p => prefixAlgo Gen.table Gen.algoTable .isoDefault (bytes p.1) p.2) = true := by
  decide +kernel

theorem live_iso_variant :
    [("MR", 21), ("TN", 18)].all
      (fun p => prefixAlgo Gen.table Gen.algoTable .isoVariant (bytes p.1) p.2) = true := by
  decide +kernel

theorem live_belgium : prefixAlgo Gen.table Gen.algoTable .be (bytes "BE") 10 = true := by
  decide +kernel

/-- The national (non-German) algorithms of the live algorithm table are registered for exactly
    the 22 countries the property lists. -/
theorem live_registered_countries :
    ((Gen.algoTable.filter (fun a => match a.ref with | .nat _ => true | _ => false)).map
      (fun a => a.key)) =
    (["BA", "BE", "CZ", "EE", "ES", "FI", "FR", "IS", "IT", "MC", "ME", "MK", "MR", "NO", "PL", "PT",
      "RS", "SI", "SK", "SM", "TL", "TN"].map (fun c => bytes (c ++ ":default"))) := by
  decide +kernel

/-- Only German bank entries name a method: for every other country the hypothesis "no entry
    of the country names a method" of the theorems above holds for the bundled registry. -/
theorem live_only_de_names_methods : Gen.countriesWithAlgo = [bytes "DE"] := by decide +kernel

/-- The generic rule and the instance facts put together for one country (BA). -/
theorem live_bosnia (R : Registry) (hR : ∀ x ∈ R, x.countryCode = bytes "BA" → x.checksumAlgo = none)
    (b : Str) (hlen : b.length = 16) (hA : allAlnum b = true) :
    BBAN.validateNational (Gen.ctx R) (bytes "BA") b =
      if mod97_98 b 14 then .ok true else .err .invalidBBANChecksum := by
  have h3 : 100 ≤ (Gen.ctx R).U.maxIntDigits := C10.unicode_wf.maxInt
  exact iso_default_rule (Gen.ctx R) C10.unicode_wf
    (List.all_eq_true.mp live_iso_default ("BA", 14) (by simp)) hR hlen hA (by omega)

/-! Non-vacuity: the rule accepts a BBAN and rejects its neighbour -/
example : mod97_98 (bytes "1290079401028494") 14 = true := by decide +kernel
example : mod97_98 (bytes "1290079401028495") 14 = false := by decide +kernel

end SV.Props.C06
