/-
  C05 — Validation is total and its errors name a defect that is really present.

  This file covers IBAN validation without national validation and BIC validation in both modes,
  for every text.  Totality of national validation (`validate_bban=True`) needs the national
  algorithms and the 39 German method theorems; it is in `SV.Props.C05National`.
-/
import SV.Proofs.IbanSound
import SV.Props.C01
import SV.Props.C04
namespace SV.Props.C05
open SV Spec

/-- IBAN: `validate()` on an unvalidated object never lets a foreign exception escape. -/
theorem iban_validate_no_crash (X : Ctx) (hU : X.U.WF) (hT : X.T.WF) (s : Str) :
    (IBAN.validate X (clean X.U s) false).isCrash = false :=
  (validate_cases hU hT (compact_clean hU s)).2.1

/-- IBAN: `is_valid` never raises at all. -/
theorem iban_is_valid_total (X : Ctx) (hU : X.U.WF) (hT : X.T.WF) (s : Str) :
    ∃ b, IBAN.isValid X (clean X.U s) = .ok b :=
  ⟨_, C01.isValid_eq X hU hT s⟩

/-- IBAN: validated construction succeeds exactly when `is_valid` on the unvalidated object is
    true. -/
theorem iban_agree (X : Ctx) (hU : X.U.WF) (hT : X.T.WF) (s : Str) :
    (IBAN.new X s false false).isOk = true ↔ IBAN.isValid X (clean X.U s) = .ok true := by
  rw [C01.accept_iff X hU hT, C01.isValid_eq X hU hT]
  exact ⟨congrArg Res.ok, Res.ok.inj⟩

/-- IBAN: an error names a defect that is present in the cleaned text —
    `InvalidCountryCode`: the first two characters are not a key of the table;
    `InvalidLength`: the length is not the country's; `InvalidStructure`: not "letters, two
    digits, BBAN fitting the structure"; `InvalidChecksumDigits`: structure fine, mod-97 fails. -/
theorem iban_error_sound (X : Ctx) (hU : X.U.WF) (hT : X.T.WF) (s : Str) (k : Err)
    (h : IBAN.new X s false false = .err k) : ibanDefect X.T k (clean X.U s) :=
  validate_err_sound hU hT (compact_clean hU s) ((Res.bind_const_eq_err _ _ _).mp h)

/-- …and conversely a defect-free text is accepted (no error is raised without a defect). -/
theorem iban_no_error_without_defect (X : Ctx) (hU : X.U.WF) (hT : X.T.WF) (s : Str)
    (h : isoValid X.T (clean X.U s) = true) : (IBAN.new X s false false).isOk = true :=
  (C01.accept_iff X hU hT s).mpr h

/-- BIC: validation never lets a foreign exception escape (both modes). -/
theorem bic_no_crash (X : BicCtx) (hX : X.WF) (s : Str) (ai strict : Bool) :
    (BIC.new X s ai strict).isCrash = false := by
  cases ai with
  | true => rfl
  | false =>
    rw [BIC.new_eq, Res.isCrash_bind_const]
    exact (BIC.validate_cases X hX _ strict).2.1

theorem bic_is_valid_total (X : BicCtx) (hX : X.WF) (c : Str) : ∃ b, BIC.isValid X c = .ok b :=
  ⟨_, C04.isValid_eq X hX c⟩

theorem bic_agree (X : BicCtx) (hX : X.WF) (s : Str) :
    (BIC.new X s false false).isOk = true ↔ BIC.isValid X (clean X.U s) = .ok true := by
  rw [C04.accept_iff X hX, C04.isValid_eq X hX]
  exact ⟨congrArg Res.ok, Res.ok.inj⟩

/-- BIC: an error names the defect that is present (`c` is the compact text): `InvalidLength` —
    the length is not 8 or 11; `InvalidStructure` — length fine, some character outside its
    class; `InvalidCountryCode` — length and characters fine, the country code is not an
    ISO 3166-1 alpha-2 code. -/
theorem bic_error_sound (X : BicCtx) (hX : X.WF) (c : Str) (strict : Bool) (k : Err)
    (h : BIC.validate X c strict = .err k) :
    (k = .invalidLength ∧ c.length ≠ 8 ∧ c.length ≠ 11) ∨
    (k = .invalidStructure ∧ (c.length = 8 ∨ c.length = 11) ∧
      iso9362 [(c.drop 4).take 2] strict c = false) ∨
    (k = .invalidCountryCode ∧ iso9362 [(c.drop 4).take 2] strict c = true ∧
      X.iso.contains ((c.drop 4).take 2) = false) := by
  rcases BIC.validate_outcome X hX c strict with ⟨h', _⟩ | ⟨h', d⟩ | ⟨h', d⟩ | ⟨h', d⟩ <;>
    cases h.symm.trans h'
  · exact .inl ⟨rfl, d⟩
  · exact .inr (.inl ⟨rfl, d⟩)
  · exact .inr (.inr ⟨rfl, d⟩)

theorem bic_new_err (X : BicCtx) (s : Str) (strict : Bool) (k : Err) :
    BIC.new X s false strict = .err k ↔ BIC.validate X (clean X.U s) strict = .err k :=
  Res.bind_const_eq_err _ _ _

end SV.Props.C05
