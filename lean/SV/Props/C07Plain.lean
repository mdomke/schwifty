/-
  One theorem per "plain" Bundesbank method (a class that changes only attributes, the summand and
  `reconcile` of `WeightedModulus`): for all ten digits, every Unicode table with `WF` and every
  incoming scratch state, the engine instantiated with the class parameters regenerated from the
  live tree (`SV.Gen.de_DE_xx`) returns a verdict (never a foreign exception) and accepts exactly
  when the published rule does.  Each is `wm_ruleNN` of `SV.Proofs.GermanyEngine` at the class: the
  hypotheses about the class hold by evaluation.
-/
import SV.Proofs.GermanyEngine
import SV.Gen.Algorithms
namespace SV.Props.C07
open SV Spec

theorem de00 (U : Unicode) (hU : U.WF) (d1 d2 d3 d4 d5 d6 d7 d8 d9 d10 : Nat)
    (h1 : d1 < 10) (h2 : d2 < 10) (h3 : d3 < 10) (h4 : d4 < 10) (h5 : d5 < 10) (h6 : d6 < 10)
    (h7 : d7 < 10) (h8 : d8 < 10) (h9 : d9 < 10) (h10 : d10 < 10) (sc : Scratch) :
    deVerdict (Gen.de_DE_00.validateM U [acct d1 d2 d3 d4 d5 d6 d7 d8 d9 d10] sc).2 = true ∧
    deAccepts (Gen.de_DE_00.validateM U [acct d1 d2 d3 d4 d5 d6 d7 d8 d9 d10] sc).2 =
      rule10 (dotQ [2, 1, 2, 1, 2, 1, 2, 1, 2] [d9, d8, d7, d6, d5, d4, d3, d2, d1]) d10 := by
  rw [acct_eq_digs, dotQ_eq_wsumBy, validateM_wm .wm []]
  exact wm_rule10 hU (acct_digits_lt h1 h2 h3 h4 h5 h6 h7 h8 h9 h10)

theorem de01 (U : Unicode) (hU : U.WF) (d1 d2 d3 d4 d5 d6 d7 d8 d9 d10 : Nat)
    (h1 : d1 < 10) (h2 : d2 < 10) (h3 : d3 < 10) (h4 : d4 < 10) (h5 : d5 < 10) (h6 : d6 < 10)
    (h7 : d7 < 10) (h8 : d8 < 10) (h9 : d9 < 10) (h10 : d10 < 10) (sc : Scratch) :
    deVerdict (Gen.de_DE_01.validateM U [acct d1 d2 d3 d4 d5 d6 d7 d8 d9 d10] sc).2 = true ∧
    deAccepts (Gen.de_DE_01.validateM U [acct d1 d2 d3 d4 d5 d6 d7 d8 d9 d10] sc).2 =
      rule10 (dot [3, 7, 1, 3, 7, 1, 3, 7, 1] [d9, d8, d7, d6, d5, d4, d3, d2, d1]) d10 := by
  rw [acct_eq_digs, dot_eq_wsumBy, validateM_wm .wm []]
  exact wm_rule10 hU (acct_digits_lt h1 h2 h3 h4 h5 h6 h7 h8 h9 h10)

theorem de02 (U : Unicode) (hU : U.WF) (d1 d2 d3 d4 d5 d6 d7 d8 d9 d10 : Nat)
    (h1 : d1 < 10) (h2 : d2 < 10) (h3 : d3 < 10) (h4 : d4 < 10) (h5 : d5 < 10) (h6 : d6 < 10)
    (h7 : d7 < 10) (h8 : d8 < 10) (h9 : d9 < 10) (h10 : d10 < 10) (sc : Scratch) :
    deVerdict (Gen.de_DE_02.validateM U [acct d1 d2 d3 d4 d5 d6 d7 d8 d9 d10] sc).2 = true ∧
    deAccepts (Gen.de_DE_02.validateM U [acct d1 d2 d3 d4 d5 d6 d7 d8 d9 d10] sc).2 =
      rule02 (dot [2, 3, 4, 5, 6, 7, 8, 9, 2] [d9, d8, d7, d6, d5, d4, d3, d2, d1]) d10 := by
  rw [acct_eq_digs, dot_eq_wsumBy, validateM_wm .wm []]
  exact wm_rule02 hU (acct_digits_lt h1 h2 h3 h4 h5 h6 h7 h8 h9 h10)

theorem de03 (U : Unicode) (hU : U.WF) (d1 d2 d3 d4 d5 d6 d7 d8 d9 d10 : Nat)
    (h1 : d1 < 10) (h2 : d2 < 10) (h3 : d3 < 10) (h4 : d4 < 10) (h5 : d5 < 10) (h6 : d6 < 10)
    (h7 : d7 < 10) (h8 : d8 < 10) (h9 : d9 < 10) (h10 : d10 < 10) (sc : Scratch) :
    deVerdict (Gen.de_DE_03.validateM U [acct d1 d2 d3 d4 d5 d6 d7 d8 d9 d10] sc).2 = true ∧
    deAccepts (Gen.de_DE_03.validateM U [acct d1 d2 d3 d4 d5 d6 d7 d8 d9 d10] sc).2 =
      rule10 (dot [2, 1, 2, 1, 2, 1, 2, 1, 2] [d9, d8, d7, d6, d5, d4, d3, d2, d1]) d10 := by
  rw [acct_eq_digs, dot_eq_wsumBy, validateM_wm .wm []]
  exact wm_rule10 hU (acct_digits_lt h1 h2 h3 h4 h5 h6 h7 h8 h9 h10)

theorem de04 (U : Unicode) (hU : U.WF) (d1 d2 d3 d4 d5 d6 d7 d8 d9 d10 : Nat)
    (h1 : d1 < 10) (h2 : d2 < 10) (h3 : d3 < 10) (h4 : d4 < 10) (h5 : d5 < 10) (h6 : d6 < 10)
    (h7 : d7 < 10) (h8 : d8 < 10) (h9 : d9 < 10) (h10 : d10 < 10) (sc : Scratch) :
    deVerdict (Gen.de_DE_04.validateM U [acct d1 d2 d3 d4 d5 d6 d7 d8 d9 d10] sc).2 = true ∧
    deAccepts (Gen.de_DE_04.validateM U [acct d1 d2 d3 d4 d5 d6 d7 d8 d9 d10] sc).2 =
      rule02 (dot [2, 3, 4, 5, 6, 7, 2, 3, 4] [d9, d8, d7, d6, d5, d4, d3, d2, d1]) d10 := by
  rw [acct_eq_digs, dot_eq_wsumBy, validateM_wm .wm []]
  exact wm_rule02 hU (acct_digits_lt h1 h2 h3 h4 h5 h6 h7 h8 h9 h10)

theorem de05 (U : Unicode) (hU : U.WF) (d1 d2 d3 d4 d5 d6 d7 d8 d9 d10 : Nat)
    (h1 : d1 < 10) (h2 : d2 < 10) (h3 : d3 < 10) (h4 : d4 < 10) (h5 : d5 < 10) (h6 : d6 < 10)
    (h7 : d7 < 10) (h8 : d8 < 10) (h9 : d9 < 10) (h10 : d10 < 10) (sc : Scratch) :
    deVerdict (Gen.de_DE_05.validateM U [acct d1 d2 d3 d4 d5 d6 d7 d8 d9 d10] sc).2 = true ∧
    deAccepts (Gen.de_DE_05.validateM U [acct d1 d2 d3 d4 d5 d6 d7 d8 d9 d10] sc).2 =
      rule10 (dot [7, 3, 1, 7, 3, 1, 7, 3, 1] [d9, d8, d7, d6, d5, d4, d3, d2, d1]) d10 := by
  rw [acct_eq_digs, dot_eq_wsumBy, validateM_wm .wm []]
  exact wm_rule10 hU (acct_digits_lt h1 h2 h3 h4 h5 h6 h7 h8 h9 h10)

theorem de06 (U : Unicode) (hU : U.WF) (d1 d2 d3 d4 d5 d6 d7 d8 d9 d10 : Nat)
    (h1 : d1 < 10) (h2 : d2 < 10) (h3 : d3 < 10) (h4 : d4 < 10) (h5 : d5 < 10) (h6 : d6 < 10)
    (h7 : d7 < 10) (h8 : d8 < 10) (h9 : d9 < 10) (h10 : d10 < 10) (sc : Scratch) :
    deVerdict (Gen.de_DE_06.validateM U [acct d1 d2 d3 d4 d5 d6 d7 d8 d9 d10] sc).2 = true ∧
    deAccepts (Gen.de_DE_06.validateM U [acct d1 d2 d3 d4 d5 d6 d7 d8 d9 d10] sc).2 =
      rule06 (dot [2, 3, 4, 5, 6, 7, 2, 3, 4] [d9, d8, d7, d6, d5, d4, d3, d2, d1]) d10 := by
  rw [acct_eq_digs, dot_eq_wsumBy, validateM_wm .wm []]
  exact wm_rule06 hU (acct_digits_lt h1 h2 h3 h4 h5 h6 h7 h8 h9 h10)

theorem de07 (U : Unicode) (hU : U.WF) (d1 d2 d3 d4 d5 d6 d7 d8 d9 d10 : Nat)
    (h1 : d1 < 10) (h2 : d2 < 10) (h3 : d3 < 10) (h4 : d4 < 10) (h5 : d5 < 10) (h6 : d6 < 10)
    (h7 : d7 < 10) (h8 : d8 < 10) (h9 : d9 < 10) (h10 : d10 < 10) (sc : Scratch) :
    deVerdict (Gen.de_DE_07.validateM U [acct d1 d2 d3 d4 d5 d6 d7 d8 d9 d10] sc).2 = true ∧
    deAccepts (Gen.de_DE_07.validateM U [acct d1 d2 d3 d4 d5 d6 d7 d8 d9 d10] sc).2 =
      rule02 (dot [2, 3, 4, 5, 6, 7, 8, 9, 10] [d9, d8, d7, d6, d5, d4, d3, d2, d1]) d10 := by
  rw [acct_eq_digs, dot_eq_wsumBy, validateM_wm .wm []]
  exact wm_rule02 hU (acct_digits_lt h1 h2 h3 h4 h5 h6 h7 h8 h9 h10)

theorem de10 (U : Unicode) (hU : U.WF) (d1 d2 d3 d4 d5 d6 d7 d8 d9 d10 : Nat)
    (h1 : d1 < 10) (h2 : d2 < 10) (h3 : d3 < 10) (h4 : d4 < 10) (h5 : d5 < 10) (h6 : d6 < 10)
    (h7 : d7 < 10) (h8 : d8 < 10) (h9 : d9 < 10) (h10 : d10 < 10) (sc : Scratch) :
    deVerdict (Gen.de_DE_10.validateM U [acct d1 d2 d3 d4 d5 d6 d7 d8 d9 d10] sc).2 = true ∧
    deAccepts (Gen.de_DE_10.validateM U [acct d1 d2 d3 d4 d5 d6 d7 d8 d9 d10] sc).2 =
      rule06 (dot [2, 3, 4, 5, 6, 7, 8, 9, 10] [d9, d8, d7, d6, d5, d4, d3, d2, d1]) d10 := by
  rw [acct_eq_digs, dot_eq_wsumBy, validateM_wm .wm []]
  exact wm_rule06 hU (acct_digits_lt h1 h2 h3 h4 h5 h6 h7 h8 h9 h10)

theorem de11 (U : Unicode) (hU : U.WF) (d1 d2 d3 d4 d5 d6 d7 d8 d9 d10 : Nat)
    (h1 : d1 < 10) (h2 : d2 < 10) (h3 : d3 < 10) (h4 : d4 < 10) (h5 : d5 < 10) (h6 : d6 < 10)
    (h7 : d7 < 10) (h8 : d8 < 10) (h9 : d9 < 10) (h10 : d10 < 10) (sc : Scratch) :
    deVerdict (Gen.de_DE_11.validateM U [acct d1 d2 d3 d4 d5 d6 d7 d8 d9 d10] sc).2 = true ∧
    deAccepts (Gen.de_DE_11.validateM U [acct d1 d2 d3 d4 d5 d6 d7 d8 d9 d10] sc).2 =
      rule11 (dot [2, 3, 4, 5, 6, 7, 8, 9, 10] [d9, d8, d7, d6, d5, d4, d3, d2, d1]) d10 := by
  rw [acct_eq_digs, dot_eq_wsumBy, validateM_wm .wm []]
  exact wm_rule11 hU (acct_digits_lt h1 h2 h3 h4 h5 h6 h7 h8 h9 h10)

theorem de13 (U : Unicode) (hU : U.WF) (d1 d2 d3 d4 d5 d6 d7 d8 d9 d10 : Nat)
    (h1 : d1 < 10) (h2 : d2 < 10) (h3 : d3 < 10) (h4 : d4 < 10) (h5 : d5 < 10) (h6 : d6 < 10)
    (h7 : d7 < 10) (h8 : d8 < 10) (h9 : d9 < 10) (h10 : d10 < 10) (sc : Scratch) :
    deVerdict (Gen.de_DE_13.validateM U [acct d1 d2 d3 d4 d5 d6 d7 d8 d9 d10] sc).2 = true ∧
    deAccepts (Gen.de_DE_13.validateM U [acct d1 d2 d3 d4 d5 d6 d7 d8 d9 d10] sc).2 =
      rule10 (dotQ [2, 1, 2, 1, 2, 1] [d7, d6, d5, d4, d3, d2]) d8 := by
  rw [acct_eq_digs, dotQ_eq_wsumBy, validateM_wm .wm []]
  exact wm_rule10 hU (acct_digits_lt h1 h2 h3 h4 h5 h6 h7 h8 h9 h10)

theorem de14 (U : Unicode) (hU : U.WF) (d1 d2 d3 d4 d5 d6 d7 d8 d9 d10 : Nat)
    (h1 : d1 < 10) (h2 : d2 < 10) (h3 : d3 < 10) (h4 : d4 < 10) (h5 : d5 < 10) (h6 : d6 < 10)
    (h7 : d7 < 10) (h8 : d8 < 10) (h9 : d9 < 10) (h10 : d10 < 10) (sc : Scratch) :
    deVerdict (Gen.de_DE_14.validateM U [acct d1 d2 d3 d4 d5 d6 d7 d8 d9 d10] sc).2 = true ∧
    deAccepts (Gen.de_DE_14.validateM U [acct d1 d2 d3 d4 d5 d6 d7 d8 d9 d10] sc).2 =
      rule02 (dot [2, 3, 4, 5, 6, 7] [d9, d8, d7, d6, d5, d4]) d10 := by
  rw [acct_eq_digs, dot_eq_wsumBy, validateM_wm .wm []]
  exact wm_rule02 hU (acct_digits_lt h1 h2 h3 h4 h5 h6 h7 h8 h9 h10)

theorem de15 (U : Unicode) (hU : U.WF) (d1 d2 d3 d4 d5 d6 d7 d8 d9 d10 : Nat)
    (h1 : d1 < 10) (h2 : d2 < 10) (h3 : d3 < 10) (h4 : d4 < 10) (h5 : d5 < 10) (h6 : d6 < 10)
    (h7 : d7 < 10) (h8 : d8 < 10) (h9 : d9 < 10) (h10 : d10 < 10) (sc : Scratch) :
    deVerdict (Gen.de_DE_15.validateM U [acct d1 d2 d3 d4 d5 d6 d7 d8 d9 d10] sc).2 = true ∧
    deAccepts (Gen.de_DE_15.validateM U [acct d1 d2 d3 d4 d5 d6 d7 d8 d9 d10] sc).2 =
      rule06 (dot [2, 3, 4, 5] [d9, d8, d7, d6]) d10 := by
  rw [acct_eq_digs, dot_eq_wsumBy, validateM_wm .wm []]
  exact wm_rule06 hU (acct_digits_lt h1 h2 h3 h4 h5 h6 h7 h8 h9 h10)

theorem de18 (U : Unicode) (hU : U.WF) (d1 d2 d3 d4 d5 d6 d7 d8 d9 d10 : Nat)
    (h1 : d1 < 10) (h2 : d2 < 10) (h3 : d3 < 10) (h4 : d4 < 10) (h5 : d5 < 10) (h6 : d6 < 10)
    (h7 : d7 < 10) (h8 : d8 < 10) (h9 : d9 < 10) (h10 : d10 < 10) (sc : Scratch) :
    deVerdict (Gen.de_DE_18.validateM U [acct d1 d2 d3 d4 d5 d6 d7 d8 d9 d10] sc).2 = true ∧
    deAccepts (Gen.de_DE_18.validateM U [acct d1 d2 d3 d4 d5 d6 d7 d8 d9 d10] sc).2 =
      rule10 (dot [3, 9, 7, 1, 3, 9, 7, 1, 3] [d9, d8, d7, d6, d5, d4, d3, d2, d1]) d10 := by
  rw [acct_eq_digs, dot_eq_wsumBy, validateM_wm .wm []]
  exact wm_rule10 hU (acct_digits_lt h1 h2 h3 h4 h5 h6 h7 h8 h9 h10)

theorem de19 (U : Unicode) (hU : U.WF) (d1 d2 d3 d4 d5 d6 d7 d8 d9 d10 : Nat)
    (h1 : d1 < 10) (h2 : d2 < 10) (h3 : d3 < 10) (h4 : d4 < 10) (h5 : d5 < 10) (h6 : d6 < 10)
    (h7 : d7 < 10) (h8 : d8 < 10) (h9 : d9 < 10) (h10 : d10 < 10) (sc : Scratch) :
    deVerdict (Gen.de_DE_19.validateM U [acct d1 d2 d3 d4 d5 d6 d7 d8 d9 d10] sc).2 = true ∧
    deAccepts (Gen.de_DE_19.validateM U [acct d1 d2 d3 d4 d5 d6 d7 d8 d9 d10] sc).2 =
      rule06 (dot [2, 3, 4, 5, 6, 7, 8, 9, 1] [d9, d8, d7, d6, d5, d4, d3, d2, d1]) d10 := by
  rw [acct_eq_digs, dot_eq_wsumBy, validateM_wm .wm []]
  exact wm_rule06 hU (acct_digits_lt h1 h2 h3 h4 h5 h6 h7 h8 h9 h10)

theorem de20 (U : Unicode) (hU : U.WF) (d1 d2 d3 d4 d5 d6 d7 d8 d9 d10 : Nat)
    (h1 : d1 < 10) (h2 : d2 < 10) (h3 : d3 < 10) (h4 : d4 < 10) (h5 : d5 < 10) (h6 : d6 < 10)
    (h7 : d7 < 10) (h8 : d8 < 10) (h9 : d9 < 10) (h10 : d10 < 10) (sc : Scratch) :
    deVerdict (Gen.de_DE_20.validateM U [acct d1 d2 d3 d4 d5 d6 d7 d8 d9 d10] sc).2 = true ∧
    deAccepts (Gen.de_DE_20.validateM U [acct d1 d2 d3 d4 d5 d6 d7 d8 d9 d10] sc).2 =
      rule06 (dot [2, 3, 4, 5, 6, 7, 8, 9, 3] [d9, d8, d7, d6, d5, d4, d3, d2, d1]) d10 := by
  rw [acct_eq_digs, dot_eq_wsumBy, validateM_wm .wm []]
  exact wm_rule06 hU (acct_digits_lt h1 h2 h3 h4 h5 h6 h7 h8 h9 h10)

theorem de22 (U : Unicode) (hU : U.WF) (d1 d2 d3 d4 d5 d6 d7 d8 d9 d10 : Nat)
    (h1 : d1 < 10) (h2 : d2 < 10) (h3 : d3 < 10) (h4 : d4 < 10) (h5 : d5 < 10) (h6 : d6 < 10)
    (h7 : d7 < 10) (h8 : d8 < 10) (h9 : d9 < 10) (h10 : d10 < 10) (sc : Scratch) :
    deVerdict (Gen.de_DE_22.validateM U [acct d1 d2 d3 d4 d5 d6 d7 d8 d9 d10] sc).2 = true ∧
    deAccepts (Gen.de_DE_22.validateM U [acct d1 d2 d3 d4 d5 d6 d7 d8 d9 d10] sc).2 =
      rule10 (dotM10 [3, 1, 3, 1, 3, 1, 3, 1, 3] [d9, d8, d7, d6, d5, d4, d3, d2, d1]) d10 := by
  rw [acct_eq_digs, dotM10_eq_wsumBy, validateM_wm .wm []]
  exact wm_rule10 hU (acct_digits_lt h1 h2 h3 h4 h5 h6 h7 h8 h9 h10)

theorem de28 (U : Unicode) (hU : U.WF) (d1 d2 d3 d4 d5 d6 d7 d8 d9 d10 : Nat)
    (h1 : d1 < 10) (h2 : d2 < 10) (h3 : d3 < 10) (h4 : d4 < 10) (h5 : d5 < 10) (h6 : d6 < 10)
    (h7 : d7 < 10) (h8 : d8 < 10) (h9 : d9 < 10) (h10 : d10 < 10) (sc : Scratch) :
    deVerdict (Gen.de_DE_28.validateM U [acct d1 d2 d3 d4 d5 d6 d7 d8 d9 d10] sc).2 = true ∧
    deAccepts (Gen.de_DE_28.validateM U [acct d1 d2 d3 d4 d5 d6 d7 d8 d9 d10] sc).2 =
      rule06 (dot [2, 3, 4, 5, 6, 7, 8] [d7, d6, d5, d4, d3, d2, d1]) d8 := by
  rw [acct_eq_digs, dot_eq_wsumBy, validateM_wm .wm []]
  exact wm_rule06 hU (acct_digits_lt h1 h2 h3 h4 h5 h6 h7 h8 h9 h10)

theorem de32 (U : Unicode) (hU : U.WF) (d1 d2 d3 d4 d5 d6 d7 d8 d9 d10 : Nat)
    (h1 : d1 < 10) (h2 : d2 < 10) (h3 : d3 < 10) (h4 : d4 < 10) (h5 : d5 < 10) (h6 : d6 < 10)
    (h7 : d7 < 10) (h8 : d8 < 10) (h9 : d9 < 10) (h10 : d10 < 10) (sc : Scratch) :
    deVerdict (Gen.de_DE_32.validateM U [acct d1 d2 d3 d4 d5 d6 d7 d8 d9 d10] sc).2 = true ∧
    deAccepts (Gen.de_DE_32.validateM U [acct d1 d2 d3 d4 d5 d6 d7 d8 d9 d10] sc).2 =
      rule06 (dot [2, 3, 4, 5, 6, 7] [d9, d8, d7, d6, d5, d4]) d10 := by
  rw [acct_eq_digs, dot_eq_wsumBy, validateM_wm .wm []]
  exact wm_rule06 hU (acct_digits_lt h1 h2 h3 h4 h5 h6 h7 h8 h9 h10)

theorem de33 (U : Unicode) (hU : U.WF) (d1 d2 d3 d4 d5 d6 d7 d8 d9 d10 : Nat)
    (h1 : d1 < 10) (h2 : d2 < 10) (h3 : d3 < 10) (h4 : d4 < 10) (h5 : d5 < 10) (h6 : d6 < 10)
    (h7 : d7 < 10) (h8 : d8 < 10) (h9 : d9 < 10) (h10 : d10 < 10) (sc : Scratch) :
    deVerdict (Gen.de_DE_33.validateM U [acct d1 d2 d3 d4 d5 d6 d7 d8 d9 d10] sc).2 = true ∧
    deAccepts (Gen.de_DE_33.validateM U [acct d1 d2 d3 d4 d5 d6 d7 d8 d9 d10] sc).2 =
      rule06 (dot [2, 3, 4, 5, 6] [d9, d8, d7, d6, d5]) d10 := by
  rw [acct_eq_digs, dot_eq_wsumBy, validateM_wm .wm []]
  exact wm_rule06 hU (acct_digits_lt h1 h2 h3 h4 h5 h6 h7 h8 h9 h10)

theorem de34 (U : Unicode) (hU : U.WF) (d1 d2 d3 d4 d5 d6 d7 d8 d9 d10 : Nat)
    (h1 : d1 < 10) (h2 : d2 < 10) (h3 : d3 < 10) (h4 : d4 < 10) (h5 : d5 < 10) (h6 : d6 < 10)
    (h7 : d7 < 10) (h8 : d8 < 10) (h9 : d9 < 10) (h10 : d10 < 10) (sc : Scratch) :
    deVerdict (Gen.de_DE_34.validateM U [acct d1 d2 d3 d4 d5 d6 d7 d8 d9 d10] sc).2 = true ∧
    deAccepts (Gen.de_DE_34.validateM U [acct d1 d2 d3 d4 d5 d6 d7 d8 d9 d10] sc).2 =
      rule06 (dot [2, 4, 8, 5, 10, 9, 7] [d7, d6, d5, d4, d3, d2, d1]) d8 := by
  rw [acct_eq_digs, dot_eq_wsumBy, validateM_wm .wm []]
  exact wm_rule06 hU (acct_digits_lt h1 h2 h3 h4 h5 h6 h7 h8 h9 h10)

theorem de38 (U : Unicode) (hU : U.WF) (d1 d2 d3 d4 d5 d6 d7 d8 d9 d10 : Nat)
    (h1 : d1 < 10) (h2 : d2 < 10) (h3 : d3 < 10) (h4 : d4 < 10) (h5 : d5 < 10) (h6 : d6 < 10)
    (h7 : d7 < 10) (h8 : d8 < 10) (h9 : d9 < 10) (h10 : d10 < 10) (sc : Scratch) :
    deVerdict (Gen.de_DE_38.validateM U [acct d1 d2 d3 d4 d5 d6 d7 d8 d9 d10] sc).2 = true ∧
    deAccepts (Gen.de_DE_38.validateM U [acct d1 d2 d3 d4 d5 d6 d7 d8 d9 d10] sc).2 =
      rule06 (dot [2, 4, 8, 5, 10, 9] [d9, d8, d7, d6, d5, d4]) d10 := by
  rw [acct_eq_digs, dot_eq_wsumBy, validateM_wm .wm []]
  exact wm_rule06 hU (acct_digits_lt h1 h2 h3 h4 h5 h6 h7 h8 h9 h10)

theorem de60 (U : Unicode) (hU : U.WF) (d1 d2 d3 d4 d5 d6 d7 d8 d9 d10 : Nat)
    (h1 : d1 < 10) (h2 : d2 < 10) (h3 : d3 < 10) (h4 : d4 < 10) (h5 : d5 < 10) (h6 : d6 < 10)
    (h7 : d7 < 10) (h8 : d8 < 10) (h9 : d9 < 10) (h10 : d10 < 10) (sc : Scratch) :
    deVerdict (Gen.de_DE_60.validateM U [acct d1 d2 d3 d4 d5 d6 d7 d8 d9 d10] sc).2 = true ∧
    deAccepts (Gen.de_DE_60.validateM U [acct d1 d2 d3 d4 d5 d6 d7 d8 d9 d10] sc).2 =
      rule10 (dotQ [2, 1, 2, 1, 2, 1, 2] [d9, d8, d7, d6, d5, d4, d3]) d10 := by
  rw [acct_eq_digs, dotQ_eq_wsumBy, validateM_wm .wm []]
  exact wm_rule10 hU (acct_digits_lt h1 h2 h3 h4 h5 h6 h7 h8 h9 h10)

end SV.Props.C07
