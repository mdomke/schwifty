/-
  C09 (continued) — computing and validating national check digits agree, end to end: a BBAN that
  `from_components` builds for one of the 19 countries of the property (decidable description
  `computingOk`, discharged on the live tables) passes `validate_national_checksum`, and so does
  every IBAN `IBAN.generate` returns; parse → rebuild is `rebuild`.
-/
import SV.Props.C08EndToEnd
import SV.Props.C09
namespace SV.Props.C09
open SV Spec

/-- Decidable description of "country `cc` keeps separately computed national check digits in a
    dedicated field": it is registered for a computing algorithm class that reads only bank, branch
    and account code, and the check-digit field is published. -/
def computingOk (T : Table) (A : AlgoTable) (cc : Str) : Bool :=
  match T.lookup cc, A.get (defaultKey cc) with
  | some e, some a =>
    (match a.ref with
     | .nat .czsk => false
     | .nat .is_ => false
     | .nat _ => true
     | _ => false) &&
    a.accepts.all (fun k => k == .bankCode || k == .branchCode || k == .accountCode) &&
    ((e.positions.getD []).lookup .nationalChecksumDigits).isSome
  | _, _ => false

theorem computingOk_spec {T : Table} {A : AlgoTable} {cc : Str} (hC : computingOk T A cc = true) :
    ∃ e a n rn, T.lookup cc = some e ∧ A.get (defaultKey cc) = some a ∧ a.ref = .nat n ∧
      n ≠ .czsk ∧ n ≠ .is_ ∧
      (∀ k ∈ a.accepts, (k = .bankCode ∨ k = .branchCode) ∨ k = .accountCode) ∧
      publishedAt e .nationalChecksumDigits rn := by
  unfold computingOk at hC
  cases hl : T.lookup cc with
  | none => simp [hl] at hC
  | some e =>
    cases ha : A.get (defaultKey cc) with
    | none => simp [hl, ha] at hC
    | some a =>
      simp only [hl, ha, Bool.and_eq_true, List.all_eq_true, Bool.or_eq_true, beq_iff_eq] at hC
      obtain ⟨⟨href, hacc⟩, hncd⟩ := hC
      obtain ⟨rn, hrn⟩ := Option.isSome_iff_exists.mp hncd
      cases hr : a.ref with
      | nat n => cases n <;> simp [hr] at href <;> exact ⟨e, a, _, rn, rfl, rfl, hr, by decide, by decide, hacc, hrn⟩
      | de p => simp [hr] at href
      | unknown => simp [hr] at href

theorem defaultsNat_of_computingOk {T : Table} {A : AlgoTable} {cc : Str}
    (hC : computingOk T A cc = true) : C08.defaultsNat A cc := by
  obtain ⟨_, a, n, _, _, ha, hn, _⟩ := computingOk_spec hC
  intro a' ha'
  obtain rfl : a = a' := Option.some.inj (ha.symm.trans ha')
  exact ⟨n, hn⟩

/-- **Computing and validating agree.**  A BBAN of the country's length that `from_components`
    returns passes the national check, whatever the components are, as long as those that
    `from_components` does not guard fit their fields. -/
theorem build_validates_of_fits (X : Ctx) (hU : X.U.WF) (hT : X.T.WF) {cc : Str}
    (hC : computingOk X.T X.A cc = true)
    (hR : X.R.NoMethod cc)
    {vs : List (Component × Str)} {b : Str} (h : BBAN.fromComponents X cc vs = .ok b)
    {e : Country} (hl : X.T.lookup cc = some e) (hblen : b.length = e.bbanLength)
    (hother : ∀ k, k ≠ .bankCode → k ≠ .branchCode → k ≠ .accountCode → k ≠ .nationalChecksumDigits →
      (clean X.U (valuesGet vs k)).length ≤ (e.range k).length) :
    BBAN.validateNational X cc b = .ok true := by
  obtain ⟨e', a, n, rn, hl', ha, hn, hn1, hn2, hacc, hrn⟩ := computingOk_spec hC
  obtain rfl : e = e' := Option.some.inj (hl.symm.trans hl')
  have hW := hT.of_lookup hl
  have hA := defaultsNat_of_computingOk hC
  obtain ⟨cs, hcs, hpl, hpn⟩ := fromComponents_readback X hU hT hA h hl hblen hother
  have hcomp : n.compute X.U (a.accepts.map (splitComps X e vs)) = .ok cs := by
    have := computeNational_ok X hA hcs
    rw [ha] at this
    obtain ⟨n', hn', hc⟩ := this
    obtain rfl : n = n' := AlgoRef.nat.inj (hn.symm.trans hn')
    exact hc
  have hne : (cs != []) = true := by simpa using (Res.sat_ok (NatAlgo.compute_sat X.U n _) hcomp).2 hn1
  -- the fields the algorithm reads, cut from the assembled BBAN, are the components it was given
  have hcut : componentsOf e b a.accepts = a.accepts.map (splitComps X e vs) := by
    rw [componentsOf_cut hW hblen]
    exact List.map_congr_left fun k hk =>
      hpl k (by rcases hacc k hk with (h | h) | h <;> subst h <;> decide)
  have hexp : (e.range .nationalChecksumDigits).cut b = cs := by
    rw [hpn (hW.range_isEmpty hrn), withChecksum, if_pos hne]
    exact if_pos rfl
  rw [validateNational_dispatch X hl hR, ha]
  simp only [hn, AlgoRef.validate, hcut, getSlice_range hW hblen, hexp]
  rw [compute_validates X.U n hn1 hn2 _ cs hcomp]
  rfl

/-- …in particular when the components `from_components` does not guard are absent, as in every
    call the library itself makes. -/
theorem build_validates (X : Ctx) (hU : X.U.WF) (hT : X.T.WF) {cc : Str}
    (hC : computingOk X.T X.A cc = true)
    (hR : ∀ x ∈ X.R, x.countryCode = cc → x.checksumAlgo = none)
    {vs : List (Component × Str)} {b : Str} (h : BBAN.fromComponents X cc vs = .ok b)
    (hfitOther : ∀ k, k ≠ .bankCode → k ≠ .branchCode → k ≠ .accountCode → valuesGet vs k = [])
    (hlen : ∀ e, X.T.lookup cc = some e → b.length = e.bbanLength) :
    BBAN.validateNational X cc b = .ok true := by
  obtain ⟨e, _, hl, _⟩ := fromComponents_ok X h
  exact build_validates_of_fits X hU hT hC hR h hl (hlen e hl)
    (fun k h1 h2 h3 _ => by rw [hfitOther k h1 h2 h3]; exact Nat.zero_le _)

/-- Every IBAN `IBAN.generate` returns for a computing country passes national validation. -/
theorem generate_validates (X : Ctx) (hU : X.U.WF) (hT : X.T.WF) {cc : Str}
    (hC : computingOk X.T X.A cc = true)
    (hR : ∀ x ∈ X.R, x.countryCode = cc → x.checksumAlgo = none)
    {bank account branch i : Str} (h : IBAN.generate X cc bank account branch = .ok i) :
    BBAN.validateNational X cc (i.drop 4) = .ok true := by
  obtain ⟨e, b, hl, hb, hblen, _, hdrop, _, _, _⟩ :=
    C08.generate_ok X hU hT (defaultsNat_of_computingOk hC) h
  rw [hdrop]
  exact build_validates X hU hT hC hR hb
    (fun _ => C08.valuesGet_genArgs_other bank account branch)
    (fun e' hl' => by rw [hl] at hl'; cases hl'; exact hblen)

/-- …so `IBAN(text, validate_bban=True)` returns it. -/
theorem generate_passes_national (X : Ctx) (hU : X.U.WF) (hT : X.T.WF) {cc : Str}
    (hC : computingOk X.T X.A cc = true)
    (hR : ∀ x ∈ X.R, x.countryCode = cc → x.checksumAlgo = none)
    {bank account branch i : Str} (h : IBAN.generate X cc bank account branch = .ok i) :
    IBAN.new X i false true = .ok i := by
  have hnat := generate_validates X hU hT hC hR h
  obtain ⟨e, b, hl, _, _, htake, _, hiso, hnew, _⟩ :=
    C08.generate_ok X hU hT (defaultsNat_of_computingOk hC) h
  -- the constructor returned `i` unchanged, so `i` is its own compact form
  obtain ⟨-, hclean⟩ := IBAN.new_eq_ok.mp hnew
  rw [IBAN.new_bban_eq hU hT, ← hclean, if_pos hiso, htake, hnat]
  rfl

theorem live_computing_ok :
    ["BA", "BE", "EE", "ES", "FI", "FR", "IT", "MC", "ME", "MK", "MR", "NO", "PL", "PT", "RS", "SI",
      "SM", "TL", "TN"].all (fun c => computingOk Gen.table Gen.algoTable (C06.bytes c)) = true := by
  decide +kernel

/-- On the live tables: every IBAN generated for one of the 19 countries passes national
    validation — every registry that names no method for the country, every component strings. -/
theorem live_generate_passes_national (R : Registry) {c : String}
    (hc : c ∈ ["BA", "BE", "EE", "ES", "FI", "FR", "IT", "MC", "ME", "MK", "MR", "NO", "PL", "PT", "RS",
      "SI", "SM", "TL", "TN"])
    (hR : ∀ x ∈ R, x.countryCode = C06.bytes c → x.checksumAlgo = none)
    {bank account branch i : Str}
    (h : IBAN.generate (Gen.ctx R) (C06.bytes c) bank account branch = .ok i) :
    IBAN.new (Gen.ctx R) i false true = .ok i :=
  generate_passes_national (Gen.ctx R) C10.unicode_wf C01.table_wf
    (List.all_eq_true.mp live_computing_ok c hc) hR h

/-! Non-vacuity: a Spanish IBAN built from components carries the computed control digits `45` and
    passes national validation. -/
example : IBAN.generate (Gen.ctx []) (C06.bytes "ES") (C06.bytes "2100") (C06.bytes "0200051332")
    (C06.bytes "0418") = .ok (C06.bytes "ES9121000418450200051332") := by decide +kernel
example : IBAN.new (Gen.ctx []) (C06.bytes "ES9121000418450200051332") false true =
    .ok (C06.bytes "ES9121000418450200051332") := by decide +kernel

/-- The components read off a BBAN: every published component with the text at its position. -/
def publishedComps (e : Country) (b : Str) : List (Component × Str) :=
  (e.positions.getD []).map (fun p => (p.1, slice b p.2.start p.2.stop))

theorem valuesGet_publishedComps (e : Country) (b : Str) (k : Component) :
    valuesGet (publishedComps e b) k = (e.range k).cut b := by
  unfold valuesGet publishedComps
  rw [lookup_map_snd (fun r : Range => slice b r.start r.stop), cut_range_eq]
  cases (e.positions.getD []).lookup k <;> rfl

theorem padComps_published (X : Ctx) {e : Country} (hW : e.WF) {b : Str} (hc : Compact X.U b)
    (hb : b.length = e.bbanLength) (k : Component) :
    padComps X e (publishedComps e b) k = (e.range k).cut b := by
  unfold padComps
  rw [valuesGet_publishedComps, clean_of_compact (c := (e.range k).cut b) (compact_slice hc _ _)]
  exact zfill_of_le (Nat.le_of_eq (cut_length hW hb k).symm)

/-- **Validating and computing agree, read the other way.**  For a BBAN of the country's length
    that passes the national check, `compute_national_checksum` on the fields of that BBAN returns;
    and what it returns, if it is not empty and the country publishes a check-digit field to write
    it to, is the text of that field. -/
theorem computeNational_of_validates (X : Ctx) {cc : Str} {e : Country} (hW : e.WF)
    (hl : X.T.lookup cc = some e) (hA : C08.defaultsNat X.A cc)
    (hR : X.R.NoMethod cc)
    (hIs : ∀ a, X.A.get (defaultKey cc) = some a → a.ref = .nat .is_ →
      (e.positions.getD []).lookup .nationalChecksumDigits = none)
    {b : Str} (hlen : b.length = e.bbanLength) (hnat : BBAN.validateNational X cc b = .ok true)
    {c : Comps} (hc : ∀ k, c k = (e.range k).cut b) :
    ∃ cs, computeNationalChecksum X cc c = .ok cs ∧
      (cs ≠ [] → (e.range .nationalChecksumDigits).isEmpty = false →
        cs = (e.range .nationalChecksumDigits).cut b) := by
  unfold computeNationalChecksum
  cases ha : X.A.get (cc ++ [colon] ++ strDefault) with
  | none => exact ⟨[], rfl, fun h => absurd rfl h⟩
  | some a =>
    have ha' : X.A.get (defaultKey cc) = some a := ha
    obtain ⟨n, hn⟩ := hA a ha'
    have hcomps : componentsOf e b a.accepts = a.accepts.map c := by
      rw [componentsOf_cut hW hlen]; exact List.map_congr_left fun k _ => (hc k).symm
    rw [validateNational_dispatch X hl hR, ha', Res.bind_guard_eq_ok] at hnat
    simp only [hn, AlgoRef.validate, hcomps, getSlice_range hW hlen] at hnat
    -- `validate` succeeded, so `compute` does, with the digits of the field if it is to write any
    obtain ⟨d, hd, hde⟩ := validate_ok_compute X.U n _ _ hnat
    refine ⟨d, by simp only [hn, AlgoRef.compute, hd, Res.translate], fun hne hfield => ?_⟩
    refine hde (fun h1 => ?_) (fun h2 => ?_)
    · subst h1; cases hd; exact hne rfl
    · -- Iceland computes, but has no field to write the result to
      have := hIs a ha' (h2 ▸ hn)
      rw [published_of_nonempty hfield] at this; cases this

/-- **Parse → rebuild.**  Take any compact BBAN `b` of the country's length that passes the national
    check, read off every published component, and hand them to `from_components`: the result is a
    BBAN of the same length that agrees with `b` at every position covered by a component (reserved
    filler positions become `0`).  `hIs`: an algorithm with its own `validate` that nevertheless
    computes something (Iceland) has no published check-digit field to write it to. -/
theorem rebuild (X : Ctx) (hU : X.U.WF) (hT : X.T.WF) {cc : Str} {e : Country}
    (hl : X.T.lookup cc = some e) (hps : e.positions.isSome = true) (hA : C08.defaultsNat X.A cc)
    (hR : ∀ x ∈ X.R, x.countryCode = cc → x.checksumAlgo = none)
    (hIs : ∀ a, X.A.get (defaultKey cc) = some a → a.ref = .nat .is_ →
      (e.positions.getD []).lookup .nationalChecksumDigits = none)
    {b : Str} (hc : Compact X.U b) (hlen : b.length = e.bbanLength)
    (hnat : BBAN.validateNational X cc b = .ok true) :
    ∃ b', BBAN.fromComponents X cc (publishedComps e b) = .ok b' ∧ b'.length = e.bbanLength ∧
      ∀ k r, publishedAt e k r → slice b' r.start r.stop = slice b r.start r.stop := by
  have hW := hT.of_lookup hl
  -- no combined-width split: a branch field of positive width is not empty
  have hns : splitsB X e (publishedComps e b) = false := Bool.eq_false_iff.mpr fun h => by
    obtain ⟨hpos, hbr, -⟩ := splitsB_iff.mp h
    rw [valuesGet_publishedComps,
      clean_of_compact (c := (e.range .branchCode).cut b) (compact_slice hc _ _)] at hbr
    have := cut_length hW hlen .branchCode
    rw [hbr] at this; exact absurd this (Nat.ne_of_lt hpos)
  -- so every component handed over is the field of `b`, and passes the three guards
  have hval : ∀ k, splitComps X e (publishedComps e b) k = (e.range k).cut b := fun k => by
    rw [splitComps_of_not_split X e _ hns]; exact padComps_published X hW hc hlen k
  have hle : ∀ k, ¬ (splitComps X e (publishedComps e b) k).length > (e.range k).length := fun k => by
    rw [hval, cut_length hW hlen]; exact Nat.lt_irrefl _
  have hpn := Option.isNone_eq_false_iff.mpr hps
  rw [fromComponents_eq, hl]
  simp only [hpn, Bool.false_eq_true, ↓reduceIte, hle]
  -- what `compute_national_checksum` returns, and that writing it changes nothing
  obtain ⟨cs, hcse, hcsv⟩ := computeNational_of_validates X hW hl hA hR hIs hlen hnat hval
  rw [hcse]
  simp only [Res.bind]
  -- the final assignment is, field by field, the text of `b`
  have hc2 : ∀ k, (e.range k).isEmpty = false →
      withChecksum (splitComps X e (publishedComps e b)) cs k = (e.range k).cut b := by
    intro k hk
    by_cases hkn : k = .nationalChecksumDigits
    · subst hkn
      unfold withChecksum
      split
      · rename_i hne; exact (if_pos rfl).trans (hcsv (by simpa using hne) hk)
      · exact hval _
    · rw [withChecksum_of_ne _ _ hkn]; exact hval k
  have ⟨h1, h2, _⟩ := overlayAll_spec hW (withChecksum (splitComps X e (publishedComps e b)) cs)
    Component.all (zeros e) (by decide) List.length_replicate
    (fun k _ hk => by rw [hc2 k hk, cut_length hW hlen])
  rw [clean_assembled X hU e _ (computeNational_compact X hU hA _ hcse)]
  refine ⟨_, rfl, h1, fun k r hp => ?_⟩
  have hk := hW.range_isEmpty hp
  have := h2 k k.mem_all hk
  rwa [hc2 k hk, range_of_published hp] at this

/-- Decidable form of the hypothesis `hIs` of `rebuild`, for every country at once: the countries
    registered (under `<cc>:default`) for the Icelandic class publish no check-digit field.  Read off
    the algorithm table, so that each of its few entries costs one table lookup. -/
def ownValidateOk (T : Table) (A : AlgoTable) : Bool :=
  A.all (fun a => match a.ref with
    | .nat .is_ => (match T.lookup (a.key.take 2) with
      | some e => ((e.positions.getD []).lookup .nationalChecksumDigits).isNone
      | none => true)
    | _ => true)

theorem live_own_validate_ok : ownValidateOk Gen.table Gen.algoTable = true := by decide +kernel

/-- Parse → rebuild on the live tables: every country with published positions, every registry that
    names no method for it, every compact BBAN of the country's length that passes the national
    check. -/
theorem live_rebuild (R : Registry) {cc : Str} {e : Country} (hl : Gen.table.lookup cc = some e)
    (hps : e.positions.isSome = true)
    (hR : ∀ x ∈ R, x.countryCode = cc → x.checksumAlgo = none)
    {b : Str} (hc : Compact Gen.unicode b) (hlen : b.length = e.bbanLength)
    (hnat : BBAN.validateNational (Gen.ctx R) cc b = .ok true) :
    ∃ b', BBAN.fromComponents (Gen.ctx R) cc (publishedComps e b) = .ok b' ∧ b'.length = e.bbanLength ∧
      ∀ k r, publishedAt e k r → slice b' r.start r.stop = slice b r.start r.stop := by
  refine rebuild (Gen.ctx R) C10.unicode_wf C01.table_wf hl hps
    (C08.defaultsNat_of_B C08.live_defaults_nat cc) hR ?_ hc hlen hnat
  intro a ha hr
  obtain ⟨x, y, rfl, -⟩ := C01.table_wf.key_of_lookup hl
  obtain ⟨hm, hk⟩ := AlgoTable.get_mem ha
  have h1 := List.all_eq_true.mp live_own_validate_ok a hm
  simpa [hr, hk, defaultKey, hl] using h1

/-! Non-vacuity: the components of a valid Spanish BBAN rebuild it. -/
example : (match Gen.table.lookup (C06.bytes "ES") with
    | some e => BBAN.fromComponents (Gen.ctx []) (C06.bytes "ES")
        (publishedComps e (C06.bytes "21000418450200051332")) == .ok (C06.bytes "21000418450200051332")
    | none => false) = true := by decide +kernel

end SV.Props.C09
