/-
  C01 — IBAN acceptance is exactly the ISO 13616 rule set over the bundled country table.

  Generic theorems: for every Unicode table with `Unicode.WF` and every country table with
  `Table.WF` (both decidable), and for **every** text (list of code points).  Instance
  obligations: the tables regenerated from the live tree satisfy `WF` (kernel evaluation).
-/
import SV.Proofs.IbanSound
import SV.Props.C10
namespace SV.Props.C01
open SV Spec

/-- Instance obligation: every entry of the effective country table is well-formed — the
    structure string parses, the live compiled pattern matches what its conversion matches,
    lengths add up, `iban_length ≤ 34`, the key is two upper-case letters, positions are in bounds
    and disjoint. -/
theorem table_wf : Gen.table.WF := Table.wf_of_wfb (by decide +kernel)

/-- **C01, constructor**: for every text, constructing a validated IBAN succeeds exactly when
    the cleaned text satisfies the ISO 13616 rule set over the country table. -/
theorem accept_iff (X : Ctx) (hU : X.U.WF) (hT : X.T.WF) (s : Str) :
    (IBAN.new X s false false).isOk = true ↔ isoValid X.T (clean X.U s) = true :=
  (IBAN.new_isOk X s false).trans (validate_ok_iff hU hT (compact_clean hU s))

/-- **C01, `validate()` on an unvalidated object**. -/
theorem validate_iff (X : Ctx) (hU : X.U.WF) (hT : X.T.WF) (s : Str) :
    IBAN.validate X (clean X.U s) false = .ok true ↔ isoValid X.T (clean X.U s) = true :=
  validate_ok_iff hU hT (compact_clean hU s)

/-- **C01, `is_valid`**: it never raises and is the ISO predicate. -/
theorem isValid_eq (X : Ctx) (hU : X.U.WF) (hT : X.T.WF) (s : Str) :
    IBAN.isValid X (clean X.U s) = .ok (isoValid X.T (clean X.U s)) :=
  (validate_cases hU hT (compact_clean hU s)).2.2

/-- **C01, alphabet and length**: every accepted IBAN's compact form consists only of ASCII
    upper-case letters and digits and is at most 34 characters long. -/
theorem accepted_alphabet (X : Ctx) (hU : X.U.WF) (hT : X.T.WF) (s : Str)
    (h : (IBAN.new X s false false).isOk = true) :
    (clean X.U s).all isAsciiAlnumUpper = true ∧ (clean X.U s).length ≤ 34 := by
  have hc := compact_clean hU s
  obtain ⟨⟨e, hl, hlen⟩, hs, _⟩ := (isoValid_eq_parts _ _).mp ((accept_iff X hU hT s).mp h)
  have hW := hT.of_lookup hl
  obtain ⟨_, _, hfmt⟩ := hW.format_iff_fits hU
  exact ⟨((stages_iff_structureOk hU (prefixOk_of_structureOk hU hT hs) hl
    (hfmt (compact_drop hc 4))).mpr hs).2,
    by have := hW.maxLen; have := hW.ibanLen; omega⟩

theorem accept_iff_live (R : Registry) (s : Str) :
    (IBAN.new (Gen.ctx R) s false false).isOk = true ↔ isoValid Gen.table (clean Gen.unicode s) = true :=
  accept_iff (Gen.ctx R) C10.unicode_wf table_wf s

/-! Non-vacuity: concrete accepted and rejected texts on the live table. -/

-- "DE89370400440532013000"
example : isoValid Gen.table
    [68, 69, 56, 57, 51, 55, 48, 52, 48, 48, 52, 52, 48, 53, 51, 50, 48, 49, 51, 48, 48, 48] = true := by
  decide +kernel

-- "DE88…": wrong check digits
example : isoValid Gen.table
    [68, 69, 56, 56, 51, 55, 48, 52, 48, 48, 52, 52, 48, 53, 51, 50, 48, 49, 51, 48, 48, 48] = false := by
  decide +kernel

-- a text with a non-ASCII digit ("DE٨٩…", ARABIC-INDIC DIGIT EIGHT/NINE) is not accepted
example : isoValid Gen.table
    [68, 69, 0x668, 0x669, 51, 55, 48, 52, 48, 48, 52, 52, 48, 53, 51, 50, 48, 49, 51, 48, 48, 48] = false := by
  decide +kernel

end SV.Props.C01
