/-
  C17 (last sentence) — "every listed bank can occur in a valid IBAN and is found again from that
  IBAN": for every well-formed table and every registry, then for every row of the regenerated bank
  table (the per-chunk obligations of `SV.Gen.Banks*`) and the live country table.
-/
import SV.Proofs.Reach
import SV.Props.C17
import SV.Props.C02
namespace SV.Props.C17
open SV Spec

/-- Decidable: the bank-identifying components of every country are distinct. -/
def lookupCompsOk (T : Table) : Bool :=
  T.all (fun e => decide ((e.bicLookup.getD [.bankCode]).Nodup))

/-- **A listed bank is reachable**: for an entry of the registry whose bank code fits the classes of
    the country's bank-identifying field there is a valid IBAN of that country whose `bank` lookup
    returns the first entry the registry lists for that (country, bank code) pair. -/
theorem bank_reachable (X : Ctx) (hU : X.U.WF) (hT : X.T.WF) {cc : Str} {e : Country}
    {l : List (Nat × SClass)} (hl : X.T.lookup cc = some e) (hps : parseSpec e.bbanSpec = some l)
    (hnb : clsAlnum (expandSpec l) = true)
    (hnd : (e.bicLookup.getD [.bankCode]).Nodup)
    (hpub : ∀ k ∈ e.bicLookup.getD [.bankCode], ∃ r, publishedAt e k r)
    {x : BankEntry} (hx : x ∈ X.R) (hcc : x.countryCode = cc) (hne : x.bankCode ≠ [])
    (hfit : ∀ cls, keyClasses e = some cls → fitsClasses cls x.bankCode = true) :
    ∃ i y, IBAN.new X i false false = .ok i ∧ i.take 2 = cc ∧
      BBAN.bank X cc (i.drop 4) = .ok (some y) ∧ y ∈ X.R ∧ y.countryCode = cc ∧
      y.bankCode = x.bankCode := by
  have hW := hT.of_lookup hl
  have hf := hfit _ (keyClasses_eq hps)
  obtain ⟨b, hfits, hblen, hkey⟩ := reachable hW hps hnd hpub hf
  have hAb : allAlnum b = true := alnum_of_fits (fits_of_parse hps b ▸ hfits) hnb
  have hnew := C02.new_computed X hU hT hl hfits (not_mem_compact hU (compact_of_allAlnum hU hAb)).1
  -- `i` is `cc`, two check digits, `b`: its first two characters are `cc`, from the fifth on it is `b`
  obtain ⟨a1, a2, rfl, _⟩ := hT.key_of_lookup hl
  obtain ⟨p, q, hpq⟩ : ∃ p q, fmt02 (checkDigits [a1, a2] b) = [p, q] :=
    ⟨_, _, fmt02_lt_100 _ (checkDigits_lt _ _)⟩
  obtain ⟨y, hy⟩ := BBAN.bank_of_key X hl (List.cons_ne_nil _ _) hx hcc hne hkey
  exact ⟨_, y, hnew, by rw [hpq]; rfl, by rw [hpq]; exact hy⟩

theorem live_lookup_comps_ok : lookupCompsOk Gen.table = true := by decide +kernel

/-- The bank-identifying components are published: those a country lists are (`table_wf`), and
    the default `bank_code` is whenever some non-empty key fits its classes. -/
theorem lookup_comps_published {e : Country} (hW : e.WF) {l : List (Nat × SClass)} {code : Str}
    (hne : code ≠ [])
    (hf : fitsClasses ((e.bicLookup.getD [.bankCode]).flatMap
      (fun k => clsAt (expandSpec l) (e.range k))) code = true) :
    ∀ k ∈ e.bicLookup.getD [.bankCode], ∃ r, publishedAt e k r := by
  intro k hk
  cases hb : e.bicLookup with
  | some L =>
    rw [hb] at hk
    exact Option.isSome_iff_exists.mp (hW.lookupDefined k (by rw [hb]; exact hk))
  | none =>
    rw [hb] at hk hf
    simp only [Option.getD_none, List.mem_singleton] at hk
    subst hk
    simp only [Option.getD_none, List.flatMap_cons, List.flatMap_nil, List.append_nil] at hf
    apply published_of_nonempty_cls (cls := expandSpec l)
    intro h0
    rw [h0] at hf
    cases code with
    | nil => exact hne rfl
    | cons _ _ => simp [fitsClasses] at hf

/-- On the live tables: for every row of the regenerated bank table with a bank code, and every
    registry that contains an entry with that country and bank code, there is a valid IBAN of the
    country from which the `bank` lookup finds the first entry listed for that pair. -/
theorem live_rows_reachable {c : BankChunk} (hc : c ∈ Gen.bankChunks) {r : BankRow} (hr : r ∈ c.rows)
    (hne : r.code ≠ []) (R : Registry) {x : BankEntry} (hx : x ∈ R)
    (hcc : x.countryCode = c.country) (hcode : x.bankCode = r.code) :
    ∃ i y, IBAN.new (Gen.ctx R) i false false = .ok i ∧ i.take 2 = c.country ∧
      BBAN.bank (Gen.ctx R) c.country (i.drop 4) = .ok (some y) ∧ y ∈ R ∧
      y.countryCode = c.country ∧ y.bankCode = r.code := by
  have hok := List.all_eq_true.mp live_banks_ok c hc
  obtain ⟨e, hl, hkc⟩ := chunk_country_known hok
  have hfit := row_bank_code_fits hok hr hne
  rw [← hcode] at hne hfit ⊢
  have hW := C01.table_wf.of_lookup hl
  obtain ⟨l, hps, _⟩ := hW.parse
  -- the chunk's classes are those of the country's bank-identifying fields
  rw [Option.some.inj (hkc.symm.trans (keyClasses_eq hps))] at hfit
  exact bank_reachable (Gen.ctx R) C10.unicode_wf C01.table_wf hl hps
    (Table.clsAlnum_of_alnumB C02.live_no_blank_class (Table.lookup_mem hl).1 hps)
    (of_decide_eq_true (List.all_eq_true.mp live_lookup_comps_ok e (Table.lookup_mem hl).1))
    (lookup_comps_published hW hne hfit) hx hcc hne
    (fun cls hk => Option.some.inj ((keyClasses_eq hps).symm.trans hk) ▸ hfit)

/-! Non-vacuity: the live table has chunks, and the first row of the first chunk has a bank code. -/
example : (match Gen.bankChunks with
    | c :: _ => (match c.rows with | r :: _ => r.code != [] | [] => false)
    | [] => false) = true := by decide +kernel

end SV.Props.C17
