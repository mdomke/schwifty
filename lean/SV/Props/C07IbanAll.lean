/-
  C07 at the IBAN level, per method: a German text that is valid without national validation and
  whose bank's FIRST registry entry names method `xx` is accepted by
  `IBAN(text, validate_bban=True)` exactly when the published rule of method `xx` holds for the ten
  account digits `d1 … d10` at positions 12 … 21 of the compact IBAN — for every registry.  Each is
  `live_german_iban_rule` at the method's theorem.
-/
import SV.Props.C07IbanLevel
import SV.Props.C07Plain
import SV.Props.C07Special
namespace SV.Props.C07
open SV Spec

theorem live_german_iban_00' (R : Registry) (s : Str)
    (hv : isoValid Gen.table (clean Gen.unicode s) = true)
    (hcc : (clean Gen.unicode s).take 2 = C06.bytes "DE")
    {e : Country} (hl : Gen.table.lookup (C06.bytes "DE") = some e)
    {x : BankEntry} {t : List BankEntry}
    (hb : R.byBankCode (C06.bytes "DE") (lookupKey e ((clean Gen.unicode s).drop 4)) = some (x :: t))
    (hname : x.checksumAlgo = some (C06.bytes "00")) :
    ∃ d1 d2 d3 d4 d5 d6 d7 d8 d9 d10,
      slice ((clean Gen.unicode s).drop 4) 8 18 = acct d1 d2 d3 d4 d5 d6 d7 d8 d9 d10 ∧
      (IBAN.new (Gen.ctx R) s false true).isOk =
        (rule10 (dotQ [2, 1, 2, 1, 2, 1, 2, 1, 2] [d9, d8, d7, d6, d5, d4, d3, d2, d1]) d10) :=
  live_german_iban_00 R s hv hcc hl hb hname

theorem live_german_iban_01' (R : Registry) (s : Str)
    (hv : isoValid Gen.table (clean Gen.unicode s) = true)
    (hcc : (clean Gen.unicode s).take 2 = C06.bytes "DE")
    {e : Country} (hl : Gen.table.lookup (C06.bytes "DE") = some e)
    {x : BankEntry} {t : List BankEntry}
    (hb : R.byBankCode (C06.bytes "DE") (lookupKey e ((clean Gen.unicode s).drop 4)) = some (x :: t))
    (hname : x.checksumAlgo = some (C06.bytes "01")) :
    ∃ d1 d2 d3 d4 d5 d6 d7 d8 d9 d10,
      slice ((clean Gen.unicode s).drop 4) 8 18 = acct d1 d2 d3 d4 d5 d6 d7 d8 d9 d10 ∧
      (IBAN.new (Gen.ctx R) s false true).isOk =
        (rule10 (dot [3, 7, 1, 3, 7, 1, 3, 7, 1] [d9, d8, d7, d6, d5, d4, d3, d2, d1]) d10) :=
  live_german_iban_rule R s hv hcc hl hb hname (by rfl) (de01 Gen.unicode C10.unicode_wf)

theorem live_german_iban_02' (R : Registry) (s : Str)
    (hv : isoValid Gen.table (clean Gen.unicode s) = true)
    (hcc : (clean Gen.unicode s).take 2 = C06.bytes "DE")
    {e : Country} (hl : Gen.table.lookup (C06.bytes "DE") = some e)
    {x : BankEntry} {t : List BankEntry}
    (hb : R.byBankCode (C06.bytes "DE") (lookupKey e ((clean Gen.unicode s).drop 4)) = some (x :: t))
    (hname : x.checksumAlgo = some (C06.bytes "02")) :
    ∃ d1 d2 d3 d4 d5 d6 d7 d8 d9 d10,
      slice ((clean Gen.unicode s).drop 4) 8 18 = acct d1 d2 d3 d4 d5 d6 d7 d8 d9 d10 ∧
      (IBAN.new (Gen.ctx R) s false true).isOk =
        (rule02 (dot [2, 3, 4, 5, 6, 7, 8, 9, 2] [d9, d8, d7, d6, d5, d4, d3, d2, d1]) d10) :=
  live_german_iban_rule R s hv hcc hl hb hname (by rfl) (de02 Gen.unicode C10.unicode_wf)

theorem live_german_iban_03' (R : Registry) (s : Str)
    (hv : isoValid Gen.table (clean Gen.unicode s) = true)
    (hcc : (clean Gen.unicode s).take 2 = C06.bytes "DE")
    {e : Country} (hl : Gen.table.lookup (C06.bytes "DE") = some e)
    {x : BankEntry} {t : List BankEntry}
    (hb : R.byBankCode (C06.bytes "DE") (lookupKey e ((clean Gen.unicode s).drop 4)) = some (x :: t))
    (hname : x.checksumAlgo = some (C06.bytes "03")) :
    ∃ d1 d2 d3 d4 d5 d6 d7 d8 d9 d10,
      slice ((clean Gen.unicode s).drop 4) 8 18 = acct d1 d2 d3 d4 d5 d6 d7 d8 d9 d10 ∧
      (IBAN.new (Gen.ctx R) s false true).isOk =
        (rule10 (dot [2, 1, 2, 1, 2, 1, 2, 1, 2] [d9, d8, d7, d6, d5, d4, d3, d2, d1]) d10) :=
  live_german_iban_rule R s hv hcc hl hb hname (by rfl) (de03 Gen.unicode C10.unicode_wf)

theorem live_german_iban_04' (R : Registry) (s : Str)
    (hv : isoValid Gen.table (clean Gen.unicode s) = true)
    (hcc : (clean Gen.unicode s).take 2 = C06.bytes "DE")
    {e : Country} (hl : Gen.table.lookup (C06.bytes "DE") = some e)
    {x : BankEntry} {t : List BankEntry}
    (hb : R.byBankCode (C06.bytes "DE") (lookupKey e ((clean Gen.unicode s).drop 4)) = some (x :: t))
    (hname : x.checksumAlgo = some (C06.bytes "04")) :
    ∃ d1 d2 d3 d4 d5 d6 d7 d8 d9 d10,
      slice ((clean Gen.unicode s).drop 4) 8 18 = acct d1 d2 d3 d4 d5 d6 d7 d8 d9 d10 ∧
      (IBAN.new (Gen.ctx R) s false true).isOk =
        (rule02 (dot [2, 3, 4, 5, 6, 7, 2, 3, 4] [d9, d8, d7, d6, d5, d4, d3, d2, d1]) d10) :=
  live_german_iban_rule R s hv hcc hl hb hname (by rfl) (de04 Gen.unicode C10.unicode_wf)

theorem live_german_iban_05' (R : Registry) (s : Str)
    (hv : isoValid Gen.table (clean Gen.unicode s) = true)
    (hcc : (clean Gen.unicode s).take 2 = C06.bytes "DE")
    {e : Country} (hl : Gen.table.lookup (C06.bytes "DE") = some e)
    {x : BankEntry} {t : List BankEntry}
    (hb : R.byBankCode (C06.bytes "DE") (lookupKey e ((clean Gen.unicode s).drop 4)) = some (x :: t))
    (hname : x.checksumAlgo = some (C06.bytes "05")) :
    ∃ d1 d2 d3 d4 d5 d6 d7 d8 d9 d10,
      slice ((clean Gen.unicode s).drop 4) 8 18 = acct d1 d2 d3 d4 d5 d6 d7 d8 d9 d10 ∧
      (IBAN.new (Gen.ctx R) s false true).isOk =
        (rule10 (dot [7, 3, 1, 7, 3, 1, 7, 3, 1] [d9, d8, d7, d6, d5, d4, d3, d2, d1]) d10) :=
  live_german_iban_rule R s hv hcc hl hb hname (by rfl) (de05 Gen.unicode C10.unicode_wf)

theorem live_german_iban_06' (R : Registry) (s : Str)
    (hv : isoValid Gen.table (clean Gen.unicode s) = true)
    (hcc : (clean Gen.unicode s).take 2 = C06.bytes "DE")
    {e : Country} (hl : Gen.table.lookup (C06.bytes "DE") = some e)
    {x : BankEntry} {t : List BankEntry}
    (hb : R.byBankCode (C06.bytes "DE") (lookupKey e ((clean Gen.unicode s).drop 4)) = some (x :: t))
    (hname : x.checksumAlgo = some (C06.bytes "06")) :
    ∃ d1 d2 d3 d4 d5 d6 d7 d8 d9 d10,
      slice ((clean Gen.unicode s).drop 4) 8 18 = acct d1 d2 d3 d4 d5 d6 d7 d8 d9 d10 ∧
      (IBAN.new (Gen.ctx R) s false true).isOk =
        (rule06 (dot [2, 3, 4, 5, 6, 7, 2, 3, 4] [d9, d8, d7, d6, d5, d4, d3, d2, d1]) d10) :=
  live_german_iban_rule R s hv hcc hl hb hname (by rfl) (de06 Gen.unicode C10.unicode_wf)

theorem live_german_iban_07' (R : Registry) (s : Str)
    (hv : isoValid Gen.table (clean Gen.unicode s) = true)
    (hcc : (clean Gen.unicode s).take 2 = C06.bytes "DE")
    {e : Country} (hl : Gen.table.lookup (C06.bytes "DE") = some e)
    {x : BankEntry} {t : List BankEntry}
    (hb : R.byBankCode (C06.bytes "DE") (lookupKey e ((clean Gen.unicode s).drop 4)) = some (x :: t))
    (hname : x.checksumAlgo = some (C06.bytes "07")) :
    ∃ d1 d2 d3 d4 d5 d6 d7 d8 d9 d10,
      slice ((clean Gen.unicode s).drop 4) 8 18 = acct d1 d2 d3 d4 d5 d6 d7 d8 d9 d10 ∧
      (IBAN.new (Gen.ctx R) s false true).isOk =
        (rule02 (dot [2, 3, 4, 5, 6, 7, 8, 9, 10] [d9, d8, d7, d6, d5, d4, d3, d2, d1]) d10) :=
  live_german_iban_rule R s hv hcc hl hb hname (by rfl) (de07 Gen.unicode C10.unicode_wf)

theorem live_german_iban_10' (R : Registry) (s : Str)
    (hv : isoValid Gen.table (clean Gen.unicode s) = true)
    (hcc : (clean Gen.unicode s).take 2 = C06.bytes "DE")
    {e : Country} (hl : Gen.table.lookup (C06.bytes "DE") = some e)
    {x : BankEntry} {t : List BankEntry}
    (hb : R.byBankCode (C06.bytes "DE") (lookupKey e ((clean Gen.unicode s).drop 4)) = some (x :: t))
    (hname : x.checksumAlgo = some (C06.bytes "10")) :
    ∃ d1 d2 d3 d4 d5 d6 d7 d8 d9 d10,
      slice ((clean Gen.unicode s).drop 4) 8 18 = acct d1 d2 d3 d4 d5 d6 d7 d8 d9 d10 ∧
      (IBAN.new (Gen.ctx R) s false true).isOk =
        (rule06 (dot [2, 3, 4, 5, 6, 7, 8, 9, 10] [d9, d8, d7, d6, d5, d4, d3, d2, d1]) d10) :=
  live_german_iban_rule R s hv hcc hl hb hname (by rfl) (de10 Gen.unicode C10.unicode_wf)

theorem live_german_iban_11' (R : Registry) (s : Str)
    (hv : isoValid Gen.table (clean Gen.unicode s) = true)
    (hcc : (clean Gen.unicode s).take 2 = C06.bytes "DE")
    {e : Country} (hl : Gen.table.lookup (C06.bytes "DE") = some e)
    {x : BankEntry} {t : List BankEntry}
    (hb : R.byBankCode (C06.bytes "DE") (lookupKey e ((clean Gen.unicode s).drop 4)) = some (x :: t))
    (hname : x.checksumAlgo = some (C06.bytes "11")) :
    ∃ d1 d2 d3 d4 d5 d6 d7 d8 d9 d10,
      slice ((clean Gen.unicode s).drop 4) 8 18 = acct d1 d2 d3 d4 d5 d6 d7 d8 d9 d10 ∧
      (IBAN.new (Gen.ctx R) s false true).isOk =
        (rule11 (dot [2, 3, 4, 5, 6, 7, 8, 9, 10] [d9, d8, d7, d6, d5, d4, d3, d2, d1]) d10) :=
  live_german_iban_rule R s hv hcc hl hb hname (by rfl) (de11 Gen.unicode C10.unicode_wf)

theorem live_german_iban_13' (R : Registry) (s : Str)
    (hv : isoValid Gen.table (clean Gen.unicode s) = true)
    (hcc : (clean Gen.unicode s).take 2 = C06.bytes "DE")
    {e : Country} (hl : Gen.table.lookup (C06.bytes "DE") = some e)
    {x : BankEntry} {t : List BankEntry}
    (hb : R.byBankCode (C06.bytes "DE") (lookupKey e ((clean Gen.unicode s).drop 4)) = some (x :: t))
    (hname : x.checksumAlgo = some (C06.bytes "13")) :
    ∃ d1 d2 d3 d4 d5 d6 d7 d8 d9 d10,
      slice ((clean Gen.unicode s).drop 4) 8 18 = acct d1 d2 d3 d4 d5 d6 d7 d8 d9 d10 ∧
      (IBAN.new (Gen.ctx R) s false true).isOk =
        (rule10 (dotQ [2, 1, 2, 1, 2, 1] [d7, d6, d5, d4, d3, d2]) d8) :=
  live_german_iban_rule R s hv hcc hl hb hname (by rfl) (de13 Gen.unicode C10.unicode_wf)

theorem live_german_iban_14' (R : Registry) (s : Str)
    (hv : isoValid Gen.table (clean Gen.unicode s) = true)
    (hcc : (clean Gen.unicode s).take 2 = C06.bytes "DE")
    {e : Country} (hl : Gen.table.lookup (C06.bytes "DE") = some e)
    {x : BankEntry} {t : List BankEntry}
    (hb : R.byBankCode (C06.bytes "DE") (lookupKey e ((clean Gen.unicode s).drop 4)) = some (x :: t))
    (hname : x.checksumAlgo = some (C06.bytes "14")) :
    ∃ d1 d2 d3 d4 d5 d6 d7 d8 d9 d10,
      slice ((clean Gen.unicode s).drop 4) 8 18 = acct d1 d2 d3 d4 d5 d6 d7 d8 d9 d10 ∧
      (IBAN.new (Gen.ctx R) s false true).isOk =
        (rule02 (dot [2, 3, 4, 5, 6, 7] [d9, d8, d7, d6, d5, d4]) d10) :=
  live_german_iban_rule R s hv hcc hl hb hname (by rfl) (de14 Gen.unicode C10.unicode_wf)

theorem live_german_iban_15' (R : Registry) (s : Str)
    (hv : isoValid Gen.table (clean Gen.unicode s) = true)
    (hcc : (clean Gen.unicode s).take 2 = C06.bytes "DE")
    {e : Country} (hl : Gen.table.lookup (C06.bytes "DE") = some e)
    {x : BankEntry} {t : List BankEntry}
    (hb : R.byBankCode (C06.bytes "DE") (lookupKey e ((clean Gen.unicode s).drop 4)) = some (x :: t))
    (hname : x.checksumAlgo = some (C06.bytes "15")) :
    ∃ d1 d2 d3 d4 d5 d6 d7 d8 d9 d10,
      slice ((clean Gen.unicode s).drop 4) 8 18 = acct d1 d2 d3 d4 d5 d6 d7 d8 d9 d10 ∧
      (IBAN.new (Gen.ctx R) s false true).isOk =
        (rule06 (dot [2, 3, 4, 5] [d9, d8, d7, d6]) d10) :=
  live_german_iban_rule R s hv hcc hl hb hname (by rfl) (de15 Gen.unicode C10.unicode_wf)

theorem live_german_iban_18' (R : Registry) (s : Str)
    (hv : isoValid Gen.table (clean Gen.unicode s) = true)
    (hcc : (clean Gen.unicode s).take 2 = C06.bytes "DE")
    {e : Country} (hl : Gen.table.lookup (C06.bytes "DE") = some e)
    {x : BankEntry} {t : List BankEntry}
    (hb : R.byBankCode (C06.bytes "DE") (lookupKey e ((clean Gen.unicode s).drop 4)) = some (x :: t))
    (hname : x.checksumAlgo = some (C06.bytes "18")) :
    ∃ d1 d2 d3 d4 d5 d6 d7 d8 d9 d10,
      slice ((clean Gen.unicode s).drop 4) 8 18 = acct d1 d2 d3 d4 d5 d6 d7 d8 d9 d10 ∧
      (IBAN.new (Gen.ctx R) s false true).isOk =
        (rule10 (dot [3, 9, 7, 1, 3, 9, 7, 1, 3] [d9, d8, d7, d6, d5, d4, d3, d2, d1]) d10) :=
  live_german_iban_rule R s hv hcc hl hb hname (by rfl) (de18 Gen.unicode C10.unicode_wf)

theorem live_german_iban_19' (R : Registry) (s : Str)
    (hv : isoValid Gen.table (clean Gen.unicode s) = true)
    (hcc : (clean Gen.unicode s).take 2 = C06.bytes "DE")
    {e : Country} (hl : Gen.table.lookup (C06.bytes "DE") = some e)
    {x : BankEntry} {t : List BankEntry}
    (hb : R.byBankCode (C06.bytes "DE") (lookupKey e ((clean Gen.unicode s).drop 4)) = some (x :: t))
    (hname : x.checksumAlgo = some (C06.bytes "19")) :
    ∃ d1 d2 d3 d4 d5 d6 d7 d8 d9 d10,
      slice ((clean Gen.unicode s).drop 4) 8 18 = acct d1 d2 d3 d4 d5 d6 d7 d8 d9 d10 ∧
      (IBAN.new (Gen.ctx R) s false true).isOk =
        (rule06 (dot [2, 3, 4, 5, 6, 7, 8, 9, 1] [d9, d8, d7, d6, d5, d4, d3, d2, d1]) d10) :=
  live_german_iban_rule R s hv hcc hl hb hname (by rfl) (de19 Gen.unicode C10.unicode_wf)

theorem live_german_iban_20' (R : Registry) (s : Str)
    (hv : isoValid Gen.table (clean Gen.unicode s) = true)
    (hcc : (clean Gen.unicode s).take 2 = C06.bytes "DE")
    {e : Country} (hl : Gen.table.lookup (C06.bytes "DE") = some e)
    {x : BankEntry} {t : List BankEntry}
    (hb : R.byBankCode (C06.bytes "DE") (lookupKey e ((clean Gen.unicode s).drop 4)) = some (x :: t))
    (hname : x.checksumAlgo = some (C06.bytes "20")) :
    ∃ d1 d2 d3 d4 d5 d6 d7 d8 d9 d10,
      slice ((clean Gen.unicode s).drop 4) 8 18 = acct d1 d2 d3 d4 d5 d6 d7 d8 d9 d10 ∧
      (IBAN.new (Gen.ctx R) s false true).isOk =
        (rule06 (dot [2, 3, 4, 5, 6, 7, 8, 9, 3] [d9, d8, d7, d6, d5, d4, d3, d2, d1]) d10) :=
  live_german_iban_rule R s hv hcc hl hb hname (by rfl) (de20 Gen.unicode C10.unicode_wf)

theorem live_german_iban_22' (R : Registry) (s : Str)
    (hv : isoValid Gen.table (clean Gen.unicode s) = true)
    (hcc : (clean Gen.unicode s).take 2 = C06.bytes "DE")
    {e : Country} (hl : Gen.table.lookup (C06.bytes "DE") = some e)
    {x : BankEntry} {t : List BankEntry}
    (hb : R.byBankCode (C06.bytes "DE") (lookupKey e ((clean Gen.unicode s).drop 4)) = some (x :: t))
    (hname : x.checksumAlgo = some (C06.bytes "22")) :
    ∃ d1 d2 d3 d4 d5 d6 d7 d8 d9 d10,
      slice ((clean Gen.unicode s).drop 4) 8 18 = acct d1 d2 d3 d4 d5 d6 d7 d8 d9 d10 ∧
      (IBAN.new (Gen.ctx R) s false true).isOk =
        (rule10 (dotM10 [3, 1, 3, 1, 3, 1, 3, 1, 3] [d9, d8, d7, d6, d5, d4, d3, d2, d1]) d10) :=
  live_german_iban_rule R s hv hcc hl hb hname (by rfl) (de22 Gen.unicode C10.unicode_wf)

theorem live_german_iban_28' (R : Registry) (s : Str)
    (hv : isoValid Gen.table (clean Gen.unicode s) = true)
    (hcc : (clean Gen.unicode s).take 2 = C06.bytes "DE")
    {e : Country} (hl : Gen.table.lookup (C06.bytes "DE") = some e)
    {x : BankEntry} {t : List BankEntry}
    (hb : R.byBankCode (C06.bytes "DE") (lookupKey e ((clean Gen.unicode s).drop 4)) = some (x :: t))
    (hname : x.checksumAlgo = some (C06.bytes "28")) :
    ∃ d1 d2 d3 d4 d5 d6 d7 d8 d9 d10,
      slice ((clean Gen.unicode s).drop 4) 8 18 = acct d1 d2 d3 d4 d5 d6 d7 d8 d9 d10 ∧
      (IBAN.new (Gen.ctx R) s false true).isOk =
        (rule06 (dot [2, 3, 4, 5, 6, 7, 8] [d7, d6, d5, d4, d3, d2, d1]) d8) :=
  live_german_iban_rule R s hv hcc hl hb hname (by rfl) (de28 Gen.unicode C10.unicode_wf)

theorem live_german_iban_32' (R : Registry) (s : Str)
    (hv : isoValid Gen.table (clean Gen.unicode s) = true)
    (hcc : (clean Gen.unicode s).take 2 = C06.bytes "DE")
    {e : Country} (hl : Gen.table.lookup (C06.bytes "DE") = some e)
    {x : BankEntry} {t : List BankEntry}
    (hb : R.byBankCode (C06.bytes "DE") (lookupKey e ((clean Gen.unicode s).drop 4)) = some (x :: t))
    (hname : x.checksumAlgo = some (C06.bytes "32")) :
    ∃ d1 d2 d3 d4 d5 d6 d7 d8 d9 d10,
      slice ((clean Gen.unicode s).drop 4) 8 18 = acct d1 d2 d3 d4 d5 d6 d7 d8 d9 d10 ∧
      (IBAN.new (Gen.ctx R) s false true).isOk =
        (rule06 (dot [2, 3, 4, 5, 6, 7] [d9, d8, d7, d6, d5, d4]) d10) :=
  live_german_iban_rule R s hv hcc hl hb hname (by rfl) (de32 Gen.unicode C10.unicode_wf)

theorem live_german_iban_33' (R : Registry) (s : Str)
    (hv : isoValid Gen.table (clean Gen.unicode s) = true)
    (hcc : (clean Gen.unicode s).take 2 = C06.bytes "DE")
    {e : Country} (hl : Gen.table.lookup (C06.bytes "DE") = some e)
    {x : BankEntry} {t : List BankEntry}
    (hb : R.byBankCode (C06.bytes "DE") (lookupKey e ((clean Gen.unicode s).drop 4)) = some (x :: t))
    (hname : x.checksumAlgo = some (C06.bytes "33")) :
    ∃ d1 d2 d3 d4 d5 d6 d7 d8 d9 d10,
      slice ((clean Gen.unicode s).drop 4) 8 18 = acct d1 d2 d3 d4 d5 d6 d7 d8 d9 d10 ∧
      (IBAN.new (Gen.ctx R) s false true).isOk =
        (rule06 (dot [2, 3, 4, 5, 6] [d9, d8, d7, d6, d5]) d10) :=
  live_german_iban_rule R s hv hcc hl hb hname (by rfl) (de33 Gen.unicode C10.unicode_wf)

theorem live_german_iban_34' (R : Registry) (s : Str)
    (hv : isoValid Gen.table (clean Gen.unicode s) = true)
    (hcc : (clean Gen.unicode s).take 2 = C06.bytes "DE")
    {e : Country} (hl : Gen.table.lookup (C06.bytes "DE") = some e)
    {x : BankEntry} {t : List BankEntry}
    (hb : R.byBankCode (C06.bytes "DE") (lookupKey e ((clean Gen.unicode s).drop 4)) = some (x :: t))
    (hname : x.checksumAlgo = some (C06.bytes "34")) :
    ∃ d1 d2 d3 d4 d5 d6 d7 d8 d9 d10,
      slice ((clean Gen.unicode s).drop 4) 8 18 = acct d1 d2 d3 d4 d5 d6 d7 d8 d9 d10 ∧
      (IBAN.new (Gen.ctx R) s false true).isOk =
        (rule06 (dot [2, 4, 8, 5, 10, 9, 7] [d7, d6, d5, d4, d3, d2, d1]) d8) :=
  live_german_iban_rule R s hv hcc hl hb hname (by rfl) (de34 Gen.unicode C10.unicode_wf)

theorem live_german_iban_38' (R : Registry) (s : Str)
    (hv : isoValid Gen.table (clean Gen.unicode s) = true)
    (hcc : (clean Gen.unicode s).take 2 = C06.bytes "DE")
    {e : Country} (hl : Gen.table.lookup (C06.bytes "DE") = some e)
    {x : BankEntry} {t : List BankEntry}
    (hb : R.byBankCode (C06.bytes "DE") (lookupKey e ((clean Gen.unicode s).drop 4)) = some (x :: t))
    (hname : x.checksumAlgo = some (C06.bytes "38")) :
    ∃ d1 d2 d3 d4 d5 d6 d7 d8 d9 d10,
      slice ((clean Gen.unicode s).drop 4) 8 18 = acct d1 d2 d3 d4 d5 d6 d7 d8 d9 d10 ∧
      (IBAN.new (Gen.ctx R) s false true).isOk =
        (rule06 (dot [2, 4, 8, 5, 10, 9] [d9, d8, d7, d6, d5, d4]) d10) :=
  live_german_iban_rule R s hv hcc hl hb hname (by rfl) (de38 Gen.unicode C10.unicode_wf)

theorem live_german_iban_60' (R : Registry) (s : Str)
    (hv : isoValid Gen.table (clean Gen.unicode s) = true)
    (hcc : (clean Gen.unicode s).take 2 = C06.bytes "DE")
    {e : Country} (hl : Gen.table.lookup (C06.bytes "DE") = some e)
    {x : BankEntry} {t : List BankEntry}
    (hb : R.byBankCode (C06.bytes "DE") (lookupKey e ((clean Gen.unicode s).drop 4)) = some (x :: t))
    (hname : x.checksumAlgo = some (C06.bytes "60")) :
    ∃ d1 d2 d3 d4 d5 d6 d7 d8 d9 d10,
      slice ((clean Gen.unicode s).drop 4) 8 18 = acct d1 d2 d3 d4 d5 d6 d7 d8 d9 d10 ∧
      (IBAN.new (Gen.ctx R) s false true).isOk =
        (rule10 (dotQ [2, 1, 2, 1, 2, 1, 2] [d9, d8, d7, d6, d5, d4, d3]) d10) :=
  live_german_iban_rule R s hv hcc hl hb hname (by rfl) (de60 Gen.unicode C10.unicode_wf)

theorem live_german_iban_16' (R : Registry) (s : Str)
    (hv : isoValid Gen.table (clean Gen.unicode s) = true)
    (hcc : (clean Gen.unicode s).take 2 = C06.bytes "DE")
    {e : Country} (hl : Gen.table.lookup (C06.bytes "DE") = some e)
    {x : BankEntry} {t : List BankEntry}
    (hb : R.byBankCode (C06.bytes "DE") (lookupKey e ((clean Gen.unicode s).drop 4)) = some (x :: t))
    (hname : x.checksumAlgo = some (C06.bytes "16")) :
    ∃ d1 d2 d3 d4 d5 d6 d7 d8 d9 d10,
      slice ((clean Gen.unicode s).drop 4) 8 18 = acct d1 d2 d3 d4 d5 d6 d7 d8 d9 d10 ∧
      (IBAN.new (Gen.ctx R) s false true).isOk =
        (rule16 (dot [2, 3, 4, 5, 6, 7, 2, 3, 4] [d9, d8, d7, d6, d5, d4, d3, d2, d1]) d9 d10) :=
  live_german_iban_rule R s hv hcc hl hb hname (by rfl) (de16 Gen.unicode C10.unicode_wf)

theorem live_german_iban_23' (R : Registry) (s : Str)
    (hv : isoValid Gen.table (clean Gen.unicode s) = true)
    (hcc : (clean Gen.unicode s).take 2 = C06.bytes "DE")
    {e : Country} (hl : Gen.table.lookup (C06.bytes "DE") = some e)
    {x : BankEntry} {t : List BankEntry}
    (hb : R.byBankCode (C06.bytes "DE") (lookupKey e ((clean Gen.unicode s).drop 4)) = some (x :: t))
    (hname : x.checksumAlgo = some (C06.bytes "23")) :
    ∃ d1 d2 d3 d4 d5 d6 d7 d8 d9 d10,
      slice ((clean Gen.unicode s).drop 4) 8 18 = acct d1 d2 d3 d4 d5 d6 d7 d8 d9 d10 ∧
      (IBAN.new (Gen.ctx R) s false true).isOk =
        (rule16 (dot [2, 3, 4, 5, 6, 7] [d6, d5, d4, d3, d2, d1]) d6 d7) :=
  live_german_iban_rule R s hv hcc hl hb hname (by rfl) (de23 Gen.unicode C10.unicode_wf)

theorem live_german_iban_25' (R : Registry) (s : Str)
    (hv : isoValid Gen.table (clean Gen.unicode s) = true)
    (hcc : (clean Gen.unicode s).take 2 = C06.bytes "DE")
    {e : Country} (hl : Gen.table.lookup (C06.bytes "DE") = some e)
    {x : BankEntry} {t : List BankEntry}
    (hb : R.byBankCode (C06.bytes "DE") (lookupKey e ((clean Gen.unicode s).drop 4)) = some (x :: t))
    (hname : x.checksumAlgo = some (C06.bytes "25")) :
    ∃ d1 d2 d3 d4 d5 d6 d7 d8 d9 d10,
      slice ((clean Gen.unicode s).drop 4) 8 18 = acct d1 d2 d3 d4 d5 d6 d7 d8 d9 d10 ∧
      (IBAN.new (Gen.ctx R) s false true).isOk =
        (rule25 (dot [2, 3, 4, 5, 6, 7, 8, 9] [d9, d8, d7, d6, d5, d4, d3, d2]) d2 d10) :=
  live_german_iban_rule R s hv hcc hl hb hname (by rfl) (de25 Gen.unicode C10.unicode_wf)

theorem live_german_iban_08' (R : Registry) (s : Str)
    (hv : isoValid Gen.table (clean Gen.unicode s) = true)
    (hcc : (clean Gen.unicode s).take 2 = C06.bytes "DE")
    {e : Country} (hl : Gen.table.lookup (C06.bytes "DE") = some e)
    {x : BankEntry} {t : List BankEntry}
    (hb : R.byBankCode (C06.bytes "DE") (lookupKey e ((clean Gen.unicode s).drop 4)) = some (x :: t))
    (hname : x.checksumAlgo = some (C06.bytes "08")) :
    ∃ d1 d2 d3 d4 d5 d6 d7 d8 d9 d10,
      slice ((clean Gen.unicode s).drop 4) 8 18 = acct d1 d2 d3 d4 d5 d6 d7 d8 d9 d10 ∧
      (IBAN.new (Gen.ctx R) s false true).isOk =
        ((decide (num [d1, d2, d3, d4, d5, d6, d7, d8, d9, d10] 0 < 60000) || rule10 (dotQ [2, 1, 2, 1, 2, 1, 2, 1, 2] [d9, d8, d7, d6, d5, d4, d3, d2, d1]) d10)) :=
  live_german_iban_rule R s hv hcc hl hb hname (by rfl) (de08 Gen.unicode C10.unicode_wf)

theorem live_german_iban_99' (R : Registry) (s : Str)
    (hv : isoValid Gen.table (clean Gen.unicode s) = true)
    (hcc : (clean Gen.unicode s).take 2 = C06.bytes "DE")
    {e : Country} (hl : Gen.table.lookup (C06.bytes "DE") = some e)
    {x : BankEntry} {t : List BankEntry}
    (hb : R.byBankCode (C06.bytes "DE") (lookupKey e ((clean Gen.unicode s).drop 4)) = some (x :: t))
    (hname : x.checksumAlgo = some (C06.bytes "99")) :
    ∃ d1 d2 d3 d4 d5 d6 d7 d8 d9 d10,
      slice ((clean Gen.unicode s).drop 4) 8 18 = acct d1 d2 d3 d4 d5 d6 d7 d8 d9 d10 ∧
      (IBAN.new (Gen.ctx R) s false true).isOk =
        ((decide (396000000 ≤ num [d1, d2, d3, d4, d5, d6, d7, d8, d9, d10] 0 ∧ num [d1, d2, d3, d4, d5, d6, d7, d8, d9, d10] 0 ≤ 499999999) || rule06 (dot [2, 3, 4, 5, 6, 7, 2, 3, 4] [d9, d8, d7, d6, d5, d4, d3, d2, d1]) d10)) :=
  live_german_iban_rule R s hv hcc hl hb hname (by rfl) (de99 Gen.unicode C10.unicode_wf)

theorem live_german_iban_63' (R : Registry) (s : Str)
    (hv : isoValid Gen.table (clean Gen.unicode s) = true)
    (hcc : (clean Gen.unicode s).take 2 = C06.bytes "DE")
    {e : Country} (hl : Gen.table.lookup (C06.bytes "DE") = some e)
    {x : BankEntry} {t : List BankEntry}
    (hb : R.byBankCode (C06.bytes "DE") (lookupKey e ((clean Gen.unicode s).drop 4)) = some (x :: t))
    (hname : x.checksumAlgo = some (C06.bytes "63")) :
    ∃ d1 d2 d3 d4 d5 d6 d7 d8 d9 d10,
      slice ((clean Gen.unicode s).drop 4) 8 18 = acct d1 d2 d3 d4 d5 d6 d7 d8 d9 d10 ∧
      (IBAN.new (Gen.ctx R) s false true).isOk =
        ((decide (d1 = 0) && rule10 (dotQ [2, 1, 2, 1, 2, 1] [d7, d6, d5, d4, d3, d2]) d8)) :=
  live_german_iban_rule R s hv hcc hl hb hname (by rfl) (de63 Gen.unicode C10.unicode_wf)

theorem live_german_iban_17' (R : Registry) (s : Str)
    (hv : isoValid Gen.table (clean Gen.unicode s) = true)
    (hcc : (clean Gen.unicode s).take 2 = C06.bytes "DE")
    {e : Country} (hl : Gen.table.lookup (C06.bytes "DE") = some e)
    {x : BankEntry} {t : List BankEntry}
    (hb : R.byBankCode (C06.bytes "DE") (lookupKey e ((clean Gen.unicode s).drop 4)) = some (x :: t))
    (hname : x.checksumAlgo = some (C06.bytes "17")) :
    ∃ d1 d2 d3 d4 d5 d6 d7 d8 d9 d10,
      slice ((clean Gen.unicode s).drop 4) 8 18 = acct d1 d2 d3 d4 d5 d6 d7 d8 d9 d10 ∧
      (IBAN.new (Gen.ctx R) s false true).isOk =
        (rule17 (dotQ [1, 2, 1, 2, 1, 2] [d2, d3, d4, d5, d6, d7]) d8) :=
  live_german_iban_rule R s hv hcc hl hb hname (by rfl) (de17 Gen.unicode C10.unicode_wf)

theorem live_german_iban_21' (R : Registry) (s : Str)
    (hv : isoValid Gen.table (clean Gen.unicode s) = true)
    (hcc : (clean Gen.unicode s).take 2 = C06.bytes "DE")
    {e : Country} (hl : Gen.table.lookup (C06.bytes "DE") = some e)
    {x : BankEntry} {t : List BankEntry}
    (hb : R.byBankCode (C06.bytes "DE") (lookupKey e ((clean Gen.unicode s).drop 4)) = some (x :: t))
    (hname : x.checksumAlgo = some (C06.bytes "21")) :
    ∃ d1 d2 d3 d4 d5 d6 d7 d8 d9 d10,
      slice ((clean Gen.unicode s).drop 4) 8 18 = acct d1 d2 d3 d4 d5 d6 d7 d8 d9 d10 ∧
      (IBAN.new (Gen.ctx R) s false true).isOk =
        (rule21 (dotQ [2, 1, 2, 1, 2, 1, 2, 1, 2] [d9, d8, d7, d6, d5, d4, d3, d2, d1]) d10) :=
  live_german_iban_rule R s hv hcc hl hb hname (by rfl) (de21 Gen.unicode C10.unicode_wf)

theorem live_german_iban_88' (R : Registry) (s : Str)
    (hv : isoValid Gen.table (clean Gen.unicode s) = true)
    (hcc : (clean Gen.unicode s).take 2 = C06.bytes "DE")
    {e : Country} (hl : Gen.table.lookup (C06.bytes "DE") = some e)
    {x : BankEntry} {t : List BankEntry}
    (hb : R.byBankCode (C06.bytes "DE") (lookupKey e ((clean Gen.unicode s).drop 4)) = some (x :: t))
    (hname : x.checksumAlgo = some (C06.bytes "88")) :
    ∃ d1 d2 d3 d4 d5 d6 d7 d8 d9 d10,
      slice ((clean Gen.unicode s).drop 4) 8 18 = acct d1 d2 d3 d4 d5 d6 d7 d8 d9 d10 ∧
      (IBAN.new (Gen.ctx R) s false true).isOk =
        ((if d3 = 9 then rule06 (dot [2, 3, 4, 5, 6, 7, 8] [d9, d8, d7, d6, d5, d4, d3]) d10 else rule06 (dot [2, 3, 4, 5, 6, 7] [d9, d8, d7, d6, d5, d4]) d10)) :=
  live_german_iban_rule R s hv hcc hl hb hname (by rfl) (de88 Gen.unicode C10.unicode_wf)

theorem live_german_iban_61' (R : Registry) (s : Str)
    (hv : isoValid Gen.table (clean Gen.unicode s) = true)
    (hcc : (clean Gen.unicode s).take 2 = C06.bytes "DE")
    {e : Country} (hl : Gen.table.lookup (C06.bytes "DE") = some e)
    {x : BankEntry} {t : List BankEntry}
    (hb : R.byBankCode (C06.bytes "DE") (lookupKey e ((clean Gen.unicode s).drop 4)) = some (x :: t))
    (hname : x.checksumAlgo = some (C06.bytes "61")) :
    ∃ d1 d2 d3 d4 d5 d6 d7 d8 d9 d10,
      slice ((clean Gen.unicode s).drop 4) 8 18 = acct d1 d2 d3 d4 d5 d6 d7 d8 d9 d10 ∧
      (IBAN.new (Gen.ctx R) s false true).isOk =
        ((if d9 = 8 then rule10 (dotQ [2, 1, 2, 1, 2, 1, 2, 1, 2] [d10, d9, d7, d6, d5, d4, d3, d2, d1]) d8 else rule10 (dotQ [2, 1, 2, 1, 2, 1, 2] [d7, d6, d5, d4, d3, d2, d1]) d8)) :=
  live_german_iban_rule R s hv hcc hl hb hname (by rfl) (de61 Gen.unicode C10.unicode_wf)

theorem live_german_iban_26' (R : Registry) (s : Str)
    (hv : isoValid Gen.table (clean Gen.unicode s) = true)
    (hcc : (clean Gen.unicode s).take 2 = C06.bytes "DE")
    {e : Country} (hl : Gen.table.lookup (C06.bytes "DE") = some e)
    {x : BankEntry} {t : List BankEntry}
    (hb : R.byBankCode (C06.bytes "DE") (lookupKey e ((clean Gen.unicode s).drop 4)) = some (x :: t))
    (hname : x.checksumAlgo = some (C06.bytes "26")) :
    ∃ d1 d2 d3 d4 d5 d6 d7 d8 d9 d10,
      slice ((clean Gen.unicode s).drop 4) 8 18 = acct d1 d2 d3 d4 d5 d6 d7 d8 d9 d10 ∧
      (IBAN.new (Gen.ctx R) s false true).isOk =
        ((if d1 = 0 ∧ d2 = 0 then rule06 (dot [2, 3, 4, 5, 6, 7, 2] [d9, d8, d7, d6, d5, d4, d3]) d10 else rule06 (dot [2, 3, 4, 5, 6, 7, 2] [d7, d6, d5, d4, d3, d2, d1]) d8)) :=
  live_german_iban_rule R s hv hcc hl hb hname (by rfl) (de26 Gen.unicode C10.unicode_wf)

theorem live_german_iban_76' (R : Registry) (s : Str)
    (hv : isoValid Gen.table (clean Gen.unicode s) = true)
    (hcc : (clean Gen.unicode s).take 2 = C06.bytes "DE")
    {e : Country} (hl : Gen.table.lookup (C06.bytes "DE") = some e)
    {x : BankEntry} {t : List BankEntry}
    (hb : R.byBankCode (C06.bytes "DE") (lookupKey e ((clean Gen.unicode s).drop 4)) = some (x :: t))
    (hname : x.checksumAlgo = some (C06.bytes "76")) :
    ∃ d1 d2 d3 d4 d5 d6 d7 d8 d9 d10,
      slice ((clean Gen.unicode s).drop 4) 8 18 = acct d1 d2 d3 d4 d5 d6 d7 d8 d9 d10 ∧
      (IBAN.new (Gen.ctx R) s false true).isOk =
        ((decide (d1 = 0 ∨ d1 = 4 ∨ d1 = 6 ∨ d1 = 7 ∨ d1 = 8 ∨ d1 = 9) && rule76 (dot [2, 3, 4, 5, 6, 7] [d7, d6, d5, d4, d3, d2]) d8)) :=
  live_german_iban_rule R s hv hcc hl hb hname (by rfl) (de76 Gen.unicode C10.unicode_wf)

theorem live_german_iban_24' (R : Registry) (s : Str)
    (hv : isoValid Gen.table (clean Gen.unicode s) = true)
    (hcc : (clean Gen.unicode s).take 2 = C06.bytes "DE")
    {e : Country} (hl : Gen.table.lookup (C06.bytes "DE") = some e)
    {x : BankEntry} {t : List BankEntry}
    (hb : R.byBankCode (C06.bytes "DE") (lookupKey e ((clean Gen.unicode s).drop 4)) = some (x :: t))
    (hname : x.checksumAlgo = some (C06.bytes "24")) :
    ∃ d1 d2 d3 d4 d5 d6 d7 d8 d9 d10,
      slice ((clean Gen.unicode s).drop 4) 8 18 = acct d1 d2 d3 d4 d5 d6 d7 d8 d9 d10 ∧
      (IBAN.new (Gen.ctx R) s false true).isOk =
        (Spec.de24 [d1, d2, d3, d4, d5, d6, d7, d8, d9] d10) :=
  live_german_iban_rule R s hv hcc hl hb hname (by rfl) (de24 Gen.unicode C10.unicode_wf)

theorem live_german_iban_68' (R : Registry) (s : Str)
    (hv : isoValid Gen.table (clean Gen.unicode s) = true)
    (hcc : (clean Gen.unicode s).take 2 = C06.bytes "DE")
    {e : Country} (hl : Gen.table.lookup (C06.bytes "DE") = some e)
    {x : BankEntry} {t : List BankEntry}
    (hb : R.byBankCode (C06.bytes "DE") (lookupKey e ((clean Gen.unicode s).drop 4)) = some (x :: t))
    (hname : x.checksumAlgo = some (C06.bytes "68")) :
    ∃ d1 d2 d3 d4 d5 d6 d7 d8 d9 d10,
      slice ((clean Gen.unicode s).drop 4) 8 18 = acct d1 d2 d3 d4 d5 d6 d7 d8 d9 d10 ∧
      (IBAN.new (Gen.ctx R) s false true).isOk =
        (Spec.de68 d1 d2 d3 d4 d5 d6 d7 d8 d9 d10) :=
  live_german_iban_rule R s hv hcc hl hb hname (by rfl) (de68 Gen.unicode C10.unicode_wf)

/-- Method 91: four variants, the account number is valid if one of them accepts. -/
theorem live_german_iban_91' (R : Registry) (s : Str)
    (hv : isoValid Gen.table (clean Gen.unicode s) = true)
    (hcc : (clean Gen.unicode s).take 2 = C06.bytes "DE")
    {e : Country} (hl : Gen.table.lookup (C06.bytes "DE") = some e)
    {x : BankEntry} {t : List BankEntry}
    (hb : R.byBankCode (C06.bytes "DE") (lookupKey e ((clean Gen.unicode s).drop 4)) = some (x :: t))
    (hname : x.checksumAlgo = some (C06.bytes "91")) :
    ∃ d1 d2 d3 d4 d5 d6 d7 d8 d9 d10,
      slice ((clean Gen.unicode s).drop 4) 8 18 = acct d1 d2 d3 d4 d5 d6 d7 d8 d9 d10 ∧
      (IBAN.new (Gen.ctx R) s false true).isOk =
        (rule06 (dot [2, 3, 4, 5, 6, 7] [d6, d5, d4, d3, d2, d1]) d7 ||
         rule06 (dot [7, 6, 5, 4, 3, 2] [d6, d5, d4, d3, d2, d1]) d7 ||
         rule06 (dot [2, 3, 4, 0, 5, 6, 7, 8, 9, 10] [d10, d9, d8, d7, d6, d5, d4, d3, d2, d1]) d7 ||
         rule06 (dot [2, 4, 8, 5, 10, 9] [d6, d5, d4, d3, d2, d1]) d7) :=
  live_german_iban_rule R s hv hcc hl hb hname (by rfl)
    fun d1 d2 d3 d4 d5 d6 d7 d8 d9 d10 g1 g2 g3 g4 g5 g6 g7 g8 g9 g10 sc => verdict_of_eq_ok
      (de91 Gen.unicode C10.unicode_wf d1 d2 d3 d4 d5 d6 d7 d8 d9 d10 g1 g2 g3 g4 g5 g6 g7 g8 g9 g10 sc)

/-- Method 09 has no check digit: every account number is accepted. -/
theorem live_german_iban_09' (R : Registry) (s : Str)
    (hv : isoValid Gen.table (clean Gen.unicode s) = true)
    (hcc : (clean Gen.unicode s).take 2 = C06.bytes "DE")
    {e : Country} (hl : Gen.table.lookup (C06.bytes "DE") = some e)
    {x : BankEntry} {t : List BankEntry}
    (hb : R.byBankCode (C06.bytes "DE") (lookupKey e ((clean Gen.unicode s).drop 4)) = some (x :: t))
    (hname : x.checksumAlgo = some (C06.bytes "09")) :
    (IBAN.new (Gen.ctx R) s false true).isOk = true := by
  have hk : Gen.algoTable.get (C06.bytes "DE" ++ [colon] ++ C06.bytes "09") =
      some ⟨C06.bytes "DE:09", .de Gen.de_DE_09, [.accountCode]⟩ := by rfl
  obtain ⟨d1, d2, d3, d4, d5, d6, d7, d8, d9, d10, _, _, _, _, _, _, _, _, _, _, _, hok⟩ :=
    live_german_iban R s hv hcc hl hb hname hk rfl rfl
  rw [hok, de09 Gen.unicode _ ⟨0⟩]
  rfl

end SV.Props.C07
