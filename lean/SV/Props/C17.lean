/-
  C17 — The bundled country and bank data are internally consistent.

  Everything here is an obligation on the data regenerated from the live tree (so "future registry
  updates" are covered by construction: the kernel re-checks whatever the tree bundles), plus the
  generic lemmas that turn the boolean checks into the statements of the property.
  Reachability ("every listed bank can occur in a valid IBAN and is found again from it") is proved
  in `C17Reach.lean` (and exercised on the real code for every distinct key).
-/
import SV.Props.C12
import SV.Gen.BanksAll
import SV.Props.C01
import SV.Proofs.BankData
namespace SV.Props.C17
open SV Spec

/-- Country table: every structure string parses and describes exactly `bban_length` positions,
    `iban_length = bban_length + 4 ≤ 34`, the compiled pattern matches what the conversion of the
    structure string matches, keys are two upper-case letters, every published position is non-empty and inside the
    BBAN, positions are pairwise disjoint, bank-identifying fields are published fields. -/
theorem live_table_wf : Gen.table.WF := C01.table_wf

/-- Under the key of every entry an entry with that key is found.  This compares keys, not
    entries, and holds of every table (`Table.lookup_code_self`): it does not say that keys are
    distinct. -/
theorem live_keys_distinct :
    Gen.table.all (fun e => (Gen.table.lookup e.code).map (·.code) == some e.code) = true :=
  Table.lookup_code_self Gen.table

/-- National algorithms read only fields the country defines: for every country with a registered
    national algorithm, every declared field is published or not published at all (then it reads
    the empty string), at least one declared field is published, and the field holding the check
    digits that the algorithm compares with (`national_checksum_digits`; the holder id for IS; none
    for CZ/SK whose rule has no separate check field) is published. -/
def algoFieldsOk (T : Table) (A : AlgoTable) : Bool :=
  A.all (fun a =>
    match a.ref with
    | .nat alg =>
      match T.lookup (a.key.take 2) with
      | none => true        -- registered for a country the table does not have: nothing is read
      | some e =>
        a.accepts.any (fun k => ((e.positions.getD []).lookup k).isSome) &&
        (match alg with
         | .czsk => true
         | .is_ => ((e.positions.getD []).lookup .accountHolderId).isSome
         | _ => ((e.positions.getD []).lookup .nationalChecksumDigits).isSome)
    | _ => true)

theorem live_algo_fields : algoFieldsOk Gen.table Gen.algoTable = true := by decide +kernel

/-- The bit mask is the one computed from pycountry's alpha-2 codes (one pass over the list). -/
theorem live_iso_mask_eq : Gen.isoMask = maskOf Gen.iso := by decide +kernel

/-- The bit mask used for BIC country codes only has bits of pycountry's alpha-2 codes. -/
theorem live_iso_mask_sound : maskSound Gen.isoMask (fun c => Gen.iso.contains c) = true :=
  live_iso_mask_eq ▸ maskSound_maskOf Gen.iso

/-- Every bank entry of the effective registry: its country is a key of the table, the chunk's key
    classes are those of the country's bank-identifying field, its BIC is null, empty or an ISO 9362
    BIC with a known country code, its bank code is empty or fits the field in length and
    character classes.  (Kernel evaluation, chunk by chunk, in `SV.Gen.Banks*`.) -/
theorem live_banks_ok : Gen.bankChunks.all (chunkOk Gen.table Gen.isoMask) = true :=
  Gen.bankChunks_ok

/-- …and the chunks hold every entry of the registry. -/
theorem live_bank_rows_complete :
    Gen.bankRowCount = Gen.bankCount ∧
    (Gen.bankChunks.map (fun c => c.rows.length)).sum = Gen.bankRowCount := by decide +kernel

theorem chunk_country_known {T : Table} {m : Nat} {c : BankChunk} (h : chunkOk T m c = true) :
    ∃ e, T.lookup c.country = some e ∧ keyClasses e = some c.cls := by
  unfold chunkOk at h
  simp only [Bool.and_eq_true] at h
  cases hl : T.lookup c.country with
  | none => simp [hl] at h
  | some e => exact ⟨e, rfl, by simpa [hl] using h.1⟩

theorem row_bank_code_fits {T : Table} {m : Nat} {c : BankChunk} (h : chunkOk T m c = true)
    {r : BankRow} (hr : r ∈ c.rows) (hne : r.code ≠ []) : fitsClasses c.cls r.code = true := by
  unfold chunkOk at h
  simp only [Bool.and_eq_true, List.all_eq_true] at h
  have := h.2 r hr
  simp only [rowOk, codeOk, Bool.and_eq_true, Bool.or_eq_true, beq_iff_eq] at this
  exact this.2.resolve_left hne

theorem row_bic_valid {T : Table} {iso : List Str} {m : Nat}
    (hs : maskSound m (fun c => iso.contains c) = true) {c : BankChunk} (h : chunkOk T m c = true)
    {r : BankRow} (hr : r ∈ c.rows) {b : Str} (hb : r.bic = some b) (hne : b ≠ []) :
    iso9362 iso false b = true := by
  unfold chunkOk at h
  simp only [Bool.and_eq_true, List.all_eq_true] at h
  have := h.2 r hr
  simp only [rowOk, Bool.and_eq_true] at this
  rw [hb] at this
  exact iso9362_of_bicOk hs hne this.1

theorem registryBicsOk_of_bicOk (X : BicCtx) (hX : X.WF) (hU : X.U.WF) {m : Nat}
    (hs : maskSound m (fun c => X.iso.contains c) = true) (R : Registry)
    (h : ∀ e ∈ R, bicOk m e.bic = true) : C12.RegistryBicsOk X R := by
  intro e he b hb hne
  have := h e he
  rw [hb] at this
  exact BIC.new_of_iso9362 X hX hU (iso9362_of_bicOk hs hne this)

/-! Non-vacuity: the obligations are about non-empty data. -/
example : Gen.bankChunks.length > 50 ∧ Gen.bankRowCount > 20000 := by decide +kernel

end SV.Props.C17
