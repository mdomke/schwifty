/-
  C05 (continued) — totality of validation WITH national validation (`validate_bban=True`).

  Generic part (`SV.Proofs.NationalTotal`): for every context whose algorithm table is class-safe
  for its country table (`natSafeB`, decidable) and whose German methods return a verdict on every
  ten-digit account (`DETotal`), `IBAN(text, validate_bban=True)` never lets a foreign exception
  escape, for every text.  Instance part: both hypotheses hold for the tables regenerated from the
  live tree (`live_nat_safe` by kernel evaluation, `live_de_total_all` from the 39 method theorems of
  C07).
-/
import SV.Proofs.NationalTotal
import SV.Props.C01
import SV.Props.C07
import SV.Props.C10
import SV.Gen.Ctx
namespace SV.Props.C05
open SV Spec

/-- IBAN with national validation: `validate(validate_bban=True)` never lets a foreign exception
    escape, for every text. -/
theorem iban_validate_bban_no_crash (X : Ctx) (hU : X.U.WF) (hT : X.T.WF)
    (hS : natSafeB X.A X.T = true) (hD : DETotal X.U X.A) (s : Str) :
    (IBAN.validate X (clean X.U s) true).isCrash = false := by
  have hc := compact_clean hU s
  rw [validate_bban_eq hU hT hc]
  split
  · next hv =>
    obtain ⟨e, hl, h4, -, -, hfit, -⟩ := (isoValid_iff _ _).mp hv
    exact Res.isCrash_bind
      (validateNational_no_crash X hU hS hD (by rw [List.length_take]; omega) hl hfit) fun _ => rfl
  · exact (validate_cases hU hT hc).2.1

theorem iban_new_bban_no_crash (X : Ctx) (hU : X.U.WF) (hT : X.T.WF)
    (hS : natSafeB X.A X.T = true) (hD : DETotal X.U X.A) (s : Str) (ai : Bool) :
    (IBAN.new X s ai true).isCrash = false := by
  cases ai with
  | true => rfl
  | false =>
    rw [IBAN.new_eq, Res.isCrash_bind_const]
    exact iban_validate_bban_no_crash X hU hT hS hD s

/-- Every algorithm registered in the live tree reads only fields whose published positions carry
    the character classes it can digest (digits for the weighted sums, alphanumerics for FR / IT /
    FI, ten digits for the German methods). -/
theorem live_nat_safe : natSafeB Gen.algoTable Gen.table = true := by decide +kernel

theorem live_de_total_all (U : Unicode) (hU : U.WF) : DETotal U Gen.algoTable := by
  intro a ha p hp d1 d2 d3 d4 d5 d6 d7 d8 d9 d10 h1 h2 h3 h4 h5 h6 h7 h8 h9 h10 sc
  apply C07.live_de_total U hU d1 d2 d3 d4 d5 d6 d7 d8 d9 d10 h1 h2 h3 h4 h5 h6 h7 h8 h9 h10 sc p
  unfold C07.liveDEParams
  exact List.mem_filterMap.mpr ⟨a, ha, by rw [hp]⟩

theorem live_iban_bban_no_crash (R : Registry) (s : Str) (ai : Bool) :
    (IBAN.new (Gen.ctx R) s ai true).isCrash = false :=
  iban_new_bban_no_crash (Gen.ctx R) C10.unicode_wf C01.table_wf live_nat_safe
    (live_de_total_all _ C10.unicode_wf) s ai

end SV.Props.C05
