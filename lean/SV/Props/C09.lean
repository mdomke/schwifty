/-
  C09 — Computed national check digits validate; parsing and rebuilding round-trips.

  Proved: for every algorithm whose `validate` is the inherited `compute(components) == expected`
  (all national algorithms except CZ/SK and IS — exactly the 19 countries of the property), any
  successfully computed check digits validate, for all component strings; together with the
  placement theorem of C08 (the fields the algorithm reads and the check-digit field are found
  unchanged in the assembled BBAN) this is "computing and validating agree"; the end-to-end form
  (every IBAN `generate` returns for one of the 19 countries passes national validation) is proved
  in `C09EndToEnd.lean`, as is parse → rebuild (`rebuild`).  Random draws are exercised by the
  correspondence stream (they funnel through `from_components`).
-/
import SV.Props.C06
namespace SV.Props.C09
open SV

/-- Whatever `compute` returns for some components, `validate` accepts for the same components. -/
theorem compute_validates (U : Unicode) (a : NatAlgo) (h1 : a ≠ .czsk) (h2 : a ≠ .is_)
    (cs : List Str) (d : Str) (h : a.compute U cs = .ok d) : a.validate U cs d = .ok true := by
  rw [NatAlgo.validate_inherited U h1 h2, h]
  simp [Res.bind]

/-- Whatever an algorithm accepts it can compute for; and unless it has a `validate` of its own
    (CZ/SK, IS), what it computes are the expected digits. -/
theorem validate_ok_compute (U : Unicode) (n : NatAlgo) (cs : List Str) (ex : Str)
    (h : n.validate U cs ex = .ok true) :
    ∃ d, n.compute U cs = .ok d ∧ (n ≠ .czsk → n ≠ .is_ → d = ex) := by
  by_cases h1 : n = .czsk
  · subst h1; exact ⟨[], rfl, fun h => absurd rfl h⟩
  by_cases h2 : n = .is_
  · subst h2
    simp only [NatAlgo.validate_is, isValidate] at h
    split at h
    · obtain ⟨d, hd, -⟩ := Res.bind_eq_ok h
      exact ⟨d, hd, fun _ h => absurd rfl h⟩
    · cases h
  rw [NatAlgo.validate_inherited U h1 h2] at h
  obtain ⟨d, hd, h⟩ := Res.bind_eq_ok h
  exact ⟨d, hd, fun _ _ => Eq.symm (by simpa using h)⟩

/-- The 19 countries with a dedicated check-digit field are exactly those registered for such an
    algorithm (instance fact on the regenerated registration table). -/
theorem live_computing_countries :
    ((Gen.algoTable.filter (fun a => match a.ref with
        | .nat .czsk => false | .nat .is_ => false | .nat _ => true | _ => false)).map (·.key)) =
    (["BA", "BE", "EE", "ES", "FI", "FR", "IT", "MC", "ME", "MK", "MR", "NO", "PL", "PT", "RS", "SI",
      "SM", "TL", "TN"].map (fun c => C06.bytes (c ++ ":default"))) := by decide +kernel

/-- For those countries the check-digit field is published, so that `from_components` writes the
    digits into a field of the BBAN (that a field the algorithm reads is published: `C17.live_algo_fields`). -/
theorem live_check_field_published :
    (Gen.algoTable.filter (fun a => match a.ref with
        | .nat .czsk => false | .nat .is_ => false | .nat _ => true | _ => false)).all
      (fun a => match Gen.table.lookup (a.key.take 2) with
        | some e => ((e.positions.getD []).lookup .nationalChecksumDigits).isSome
        | none => false) = true := by decide +kernel

end SV.Props.C09
