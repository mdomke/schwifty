/-
  C02 — IBAN check digits are computed correctly, uniquely and canonically.

  For every country of a well-formed table and every BBAN (in the library's compact form) that
  fits the country's structure string: `IBAN.from_bban` returns the valid IBAN carrying the ISO
  7064 mod 97-10 check digits `98 − (numeric(bban + country)·100 mod 97)`, which lie in 02..98;
  among all 100 digit pairs exactly that one is accepted; 00, 01 and 99 never are.
-/
import SV.Props.C01
namespace SV.Props.C02
open SV Spec

theorem range (cc b : Str) : 2 ≤ checkDigits cc b ∧ checkDigits cc b ≤ 98 := by
  unfold checkDigits; omega

theorem key_bban_alnum {U : Unicode} {T : Table} (hU : U.WF) (hT : T.WF) {cc b : Str} {e : Country}
    (hl : T.lookup cc = some e) (hf : fits e b = true) (hb : (32 : Nat) ∉ b) :
    allAlnum cc = true ∧ allAlnum b = true := by
  obtain ⟨l, hps, _⟩ := (hT.of_lookup hl).parse
  obtain ⟨a', b', rfl, hua, hub⟩ := hT.key_of_lookup hl
  exact ⟨by simp [allAlnum, isAsciiAlnumUpper, hua, hub],
    ((fitsClasses_iff hU _ _ hb).mp (fits_of_parse hps b ▸ hf)).2⟩

theorem assembled_alnum {U : Unicode} {T : Table} (hU : U.WF) (hT : T.WF) {cc b : Str} {e : Country}
    (hl : T.lookup cc = some e) (hf : fits e b = true) (hb : (32 : Nat) ∉ b)
    {x y : Nat} (hx : isAsciiDigit x = true) (hy : isAsciiDigit y = true) :
    allAlnum (cc ++ [x, y] ++ b) = true := by
  obtain ⟨hAcc, hAb⟩ := key_bban_alnum hU hT hl hf hb
  simp only [allAlnum_append, hAcc, hAb, Bool.and_true, Bool.true_and]
  simp [allAlnum, isAsciiAlnumUpper, hx, hy]

/-- Uniqueness: among the 100 digit pairs `x y`, the text `cc x y bban` is accepted only for the
    computed one. -/
theorem unique (X : Ctx) (hU : X.U.WF) (hT : X.T.WF) {cc b : Str} {e : Country}
    (hl : X.T.lookup cc = some e) (hf : fits e b = true) (hb : (32 : Nat) ∉ b)
    {x y : Nat} (hx : isAsciiDigit x = true) (hy : isAsciiDigit y = true) :
    (IBAN.new X (cc ++ [x, y] ++ b) false false).isOk = true ↔
      [x, y] = fmt02 (checkDigits cc b) := by
  rw [C01.accept_iff X hU hT, clean_of_allAlnum hU (assembled_alnum hU hT hl hf hb hx hy),
    isoValid_assembled hT hl hf hx hy, eq_comm (a := [x, y]), fmt02_eq_pair (checkDigits_lt _ _)]
  exact ⟨fun h => ⟨hx, hy, h⟩, fun h => h.2.2⟩

theorem new_computed (X : Ctx) (hU : X.U.WF) (hT : X.T.WF) {cc b : Str} {e : Country}
    (hl : X.T.lookup cc = some e) (hf : fits e b = true) (hb : (32 : Nat) ∉ b) :
    IBAN.new X (cc ++ fmt02 (checkDigits cc b) ++ b) false false =
      .ok (cc ++ fmt02 (checkDigits cc b) ++ b) := by
  obtain ⟨x, y, hxy⟩ : ∃ x y, fmt02 (checkDigits cc b) = [x, y] := ⟨_, _, fmt02_lt_100 _ (checkDigits_lt _ _)⟩
  obtain ⟨hx, hy, hd⟩ := (fmt02_eq_pair (checkDigits_lt _ _)).mp hxy
  have hA := assembled_alnum hU hT hl hf hb hx hy
  have hcl := clean_of_allAlnum hU hA
  rw [hxy]
  refine IBAN.new_eq_ok.mpr ⟨?_, hcl.symm⟩
  rw [hcl]
  exact (validate_ok_iff hU hT (compact_of_allAlnum hU hA)).mpr
    ((isoValid_assembled hT hl hf hx hy).mpr hd)

/-- `IBAN.from_bban` yields the valid IBAN with the computed check digits. -/
theorem from_bban (X : Ctx) (hU : X.U.WF) (hT : X.T.WF) {cc b : Str} {e : Country}
    (hl : X.T.lookup cc = some e) (hf : fits e b = true) (hb : (32 : Nat) ∉ b) :
    IBAN.fromBban X cc b false false = .ok (cc ++ fmt02 (checkDigits cc b) ++ b) := by
  have hW := hT.of_lookup hl
  obtain ⟨hAcc, hAb⟩ := key_bban_alnum hU hT hl hf hb
  obtain ⟨a', b', rfl, _, _⟩ := hT.key_of_lookup hl
  -- the check-digit computation succeeds: at most 30 + 2 characters, each at most two digits
  have hcomp : isoDefaultCompute X.U [b, [a', b']] = .ok (fmt02 (checkDigits [a', b'] b)) :=
    isoDefaultCompute_eq (by rw [allAlnum_append, hAb, hAcc]; rfl) (by simp)
      (hW.numLen_le hU (by
        rw [List.length_append, hW.fits_length hf, hW.ibanLen]; exact Nat.le_add_right _ 2))
  rw [IBAN.fromBban, hcomp, Res.ok_bind]
  exact new_computed X hU hT hl hf hb

/-- The aliases 00, 01 and 99 (which also leave remainder 1) are never accepted. -/
theorem no_alias (X : Ctx) (hU : X.U.WF) (hT : X.T.WF) {cc b : Str} {e : Country}
    (hl : X.T.lookup cc = some e) (hf : fits e b = true) (hb : (32 : Nat) ∉ b) :
    (IBAN.new X (cc ++ [48, 48] ++ b) false false).isOk = false ∧
    (IBAN.new X (cc ++ [48, 49] ++ b) false false).isOk = false ∧
    (IBAN.new X (cc ++ [57, 57] ++ b) false false).isOk = false := by
  have hr := range cc b
  have key : ∀ x y, isAsciiDigit x = true → isAsciiDigit y = true →
      ((x - 48) * 10 + (y - 48) < 2 ∨ 98 < (x - 48) * 10 + (y - 48)) →
      (IBAN.new X (cc ++ [x, y] ++ b) false false).isOk = false := by
    intro x y hx hy hv
    refine Bool.eq_false_iff.mpr fun h => ?_
    have := ((fmt02_eq_pair (checkDigits_lt _ _)).mp
      ((unique X hU hT hl hf hb hx hy).mp h).symm).2.2
    omega
  exact ⟨key 48 48 (by decide) (by decide) (by omega), key 48 49 (by decide) (by decide) (by omega),
    key 57 57 (by decide) (by decide) (by omega)⟩

/-- Instance fact: no country of the live table has a blank (`e`) position, so "contains no
    blank" holds for every BBAN that fits a live structure. -/
theorem live_no_blank_class : Gen.table.alnumB = true := by decide +kernel

/-! Non-vacuity -/
-- DE, BBAN 370400440532013000 fits; computed digits are 89
example : fits (Gen.table.lookup [68, 69]).get!
    [51, 55, 48, 52, 48, 48, 52, 52, 48, 53, 51, 50, 48, 49, 51, 48, 48, 48] = true := by decide +kernel
example : fmt02 (checkDigits [68, 69]
    [51, 55, 48, 52, 48, 48, 52, 52, 48, 53, 51, 50, 48, 49, 51, 48, 48, 48]) = [56, 57] := by
  decide +kernel

end SV.Props.C02
