/-
  C06 (continued) — the published weighted-sum / Luhn / RIB / CIN rules.

  For ES, FR, MC, IT, SM, FI, NO, PL, EE, CZ, SK and IS: for every structure-conforming BBAN the
  national check accepts exactly when the published rule of `SV.Spec.National` (stated over the
  BBAN string positions, weights written out) holds.  Each generic theorem assumes only a
  decidable description of the country's layout (`layoutAlgo`: the registered algorithm class,
  the positions of the fields it reads and of the check-digit field, the classes of the structure
  string); the `live_*` theorems discharge it on the tables regenerated from the live tree, so a
  changed registration, a moved position or a changed structure string breaks them.
-/
import SV.Proofs.NationalRules
import SV.Props.C06
import SV.Props.C02
namespace SV.Props.C06
open SV Spec

abbrev nCls (k : Nat) : List SClass := List.replicate k .n

theorem spain_rule (X : Ctx) (hU : X.U.WF) {cc : Str}
    (hp : layoutAlgo X.T X.A .es cc (nCls 20) [⟨0, 4⟩, ⟨4, 8⟩, ⟨10, 20⟩] ⟨8, 10⟩ = true)
    (hR : ∀ x ∈ X.R, x.countryCode = cc → x.checksumAlgo = none)
    (b : Str) (hf : fitsClasses (nCls 20) b = true) :
    BBAN.validateNational X cc b = if spain b then .ok true else .err .invalidBBANChecksum := by
  obtain ⟨hlen, hd⟩ := length_digits_of_fits hf
  rw [layout_dispatch X hp hR b]
  -- every `_get_slice` becomes the plain slice (`hlen`), the algorithm's verdict on
  -- digit slices the Spec expression (`es_validate_val`), adjacent slices are joined; `+decide`
  -- closes the closed numeric side goals.  The other eight rules go the same way.
  simp +decide only [List.map, getSlice_of_le, hlen, es_validate_val hU, allDigits_slice,
    hd, slice_append_slice]
  rfl

/-- FR, MC. -/
theorem france_rule (X : Ctx) {cc : Str}
    (hp : layoutAlgo X.T X.A .fr cc (nCls 10 ++ List.replicate 11 .c ++ nCls 2)
      [⟨0, 5⟩, ⟨5, 10⟩, ⟨10, 21⟩] ⟨21, 23⟩ = true)
    (hR : ∀ x ∈ X.R, x.countryCode = cc → x.checksumAlgo = none) (hm : 11 ≤ X.U.maxIntDigits)
    (b : Str) (hf : fitsClasses (nCls 10 ++ List.replicate 11 .c ++ nCls 2) b = true) :
    BBAN.validateNational X cc b = if france b then .ok true else .err .invalidBBANChecksum := by
  have hlen : b.length = 23 := fitsClasses_length hf
  have hd := alnum_of_fits hf (by decide)
  rw [layout_dispatch X hp hR b]
  simp +decide only [List.map, getSlice_of_le, hlen, fr_validate_val X.U, allAlnum_slice, hd,
    slice_length, hm, slice_append_slice]
  rw [slice_to_end (by omega), slice_zero]; rfl

/-- IT, SM. -/
theorem italy_rule (X : Ctx) (hU : X.U.WF) {cc : Str}
    (hp : layoutAlgo X.T X.A .it cc ([SClass.a] ++ nCls 10 ++ List.replicate 12 .c)
      [⟨1, 6⟩, ⟨6, 11⟩, ⟨11, 23⟩] ⟨0, 1⟩ = true)
    (hR : ∀ x ∈ X.R, x.countryCode = cc → x.checksumAlgo = none)
    (b : Str) (hf : fitsClasses ([SClass.a] ++ nCls 10 ++ List.replicate 12 .c) b = true) :
    BBAN.validateNational X cc b = if italy b then .ok true else .err .invalidBBANChecksum := by
  have hlen : b.length = 23 := fitsClasses_length hf
  have hd := alnum_of_fits hf (by decide)
  rw [layout_dispatch X hp hR b]
  simp +decide only [List.map, getSlice_of_le, hlen, it_validate_val hU, allAlnum_slice, hd,
    List.all_cons, List.all_nil, joinStrs_cons, joinStrs_nil, List.append_nil, slice_append_slice]
  rw [slice_zero]; rfl

theorem finland_rule (X : Ctx) {cc : Str}
    (hp : layoutAlgo X.T X.A .fi cc (nCls 14) [⟨0, 3⟩, ⟨3, 13⟩] ⟨13, 14⟩ = true)
    (hR : ∀ x ∈ X.R, x.countryCode = cc → x.checksumAlgo = none)
    (b : Str) (hf : fitsClasses (nCls 14) b = true) :
    BBAN.validateNational X cc b = if finland b then .ok true else .err .invalidBBANChecksum := by
  obtain ⟨hlen, hd⟩ := length_digits_of_fits hf
  rw [layout_dispatch X hp hR b]
  simp +decide only [List.map, getSlice_of_le, hlen, fi_validate_val X.U, allDigits_slice, hd,
    List.all_cons, List.all_nil, joinStrs_cons, joinStrs_nil, List.append_nil, slice_append_slice]
  rw [slice_to_end (by omega), slice_zero]; rfl

/-- NO: an account number for which no check digit exists is reported as `InvalidAccountCode`,
    a wrong check digit as `InvalidBBANChecksum`. -/
theorem norway_rule (X : Ctx) (hU : X.U.WF) {cc : Str}
    (hp : layoutAlgo X.T X.A .no cc (nCls 11) [⟨0, 4⟩, ⟨4, 10⟩] ⟨10, 11⟩ = true)
    (hR : ∀ x ∈ X.R, x.countryCode = cc → x.checksumAlgo = none)
    (b : Str) (hf : fitsClasses (nCls 11) b = true) :
    BBAN.validateNational X cc b =
      if norwayUnusable b then .err .invalidAccountCode
      else if norway b then .ok true else .err .invalidBBANChecksum := by
  obtain ⟨hlen, hd⟩ := length_digits_of_fits hf
  rw [layout_dispatch X hp hR b]
  simp +decide only [List.map, getSlice_of_le, hlen, no_validate_val hU, allDigits_slice, hd,
    slice_take, slice_drop, slice_append_slice, Nat.reduceAdd, apply_ite (wsum _)]
  -- with a `00` account only four digits are left for the ten weights
  have ht : wsum [5, 4, 3, 2, 7, 6, 5, 4, 3, 2] (slice b 6 10) = wsum [5, 4, 3, 2] (slice b 6 10) :=
    wsum_trunc [5, 4, 3, 2] [7, 6, 5, 4, 3, 2] _ (by rw [slice_length (by omega)]; decide)
  rw [slice_to_end (s := 10) (by omega), ht]
  show (if 11 - norwaySum b % 11 = 10 then _
    else Res.ok (b.drop 10 == [48 + (11 - norwaySum b % 11) % 11])).bind _ = _
  unfold norway norwayUnusable
  by_cases h10 : 11 - norwaySum b % 11 = 10 <;> simp [h10, Res.bind]

theorem poland_rule (X : Ctx) (hU : X.U.WF) {cc : Str}
    (hp : layoutAlgo X.T X.A .pl cc (nCls 24) [⟨0, 3⟩, ⟨3, 7⟩] ⟨7, 8⟩ = true)
    (hR : ∀ x ∈ X.R, x.countryCode = cc → x.checksumAlgo = none)
    (b : Str) (hf : fitsClasses (nCls 24) b = true) :
    BBAN.validateNational X cc b = if poland b then .ok true else .err .invalidBBANChecksum := by
  obtain ⟨hlen, hd⟩ := length_digits_of_fits hf
  rw [layout_dispatch X hp hR b]
  simp +decide only [List.map, getSlice_of_le, hlen, pl_validate_val hU, allDigits_slice, hd,
    List.all_cons, List.all_nil, joinStrs_cons, joinStrs_nil, List.append_nil, slice_append_slice]
  rfl

theorem estonia_rule (X : Ctx) (hU : X.U.WF) {cc : Str}
    (hp : layoutAlgo X.T X.A .ee cc (nCls 16) [⟨2, 4⟩, ⟨4, 15⟩] ⟨15, 16⟩ = true)
    (hR : ∀ x ∈ X.R, x.countryCode = cc → x.checksumAlgo = none)
    (b : Str) (hf : fitsClasses (nCls 16) b = true) :
    BBAN.validateNational X cc b = if estonia b then .ok true else .err .invalidBBANChecksum := by
  obtain ⟨hlen, hd⟩ := length_digits_of_fits hf
  rw [layout_dispatch X hp hR b]
  simp +decide only [List.map, getSlice_of_le, hlen, ee_validate_val hU, allDigits_slice, hd,
    List.all_cons, List.all_nil, joinStrs_cons, joinStrs_nil, List.append_nil, slice_append_slice, slice_length]
  rw [slice_to_end (by omega)]; rfl

/-- CZ, SK. -/
theorem czech_rule (X : Ctx) (hU : X.U.WF) {cc : Str} {chk : Range}
    (hp : layoutAlgo X.T X.A .czsk cc (nCls 20) [⟨4, 10⟩, ⟨10, 20⟩] chk = true)
    (hR : ∀ x ∈ X.R, x.countryCode = cc → x.checksumAlgo = none)
    (b : Str) (hf : fitsClasses (nCls 20) b = true) :
    BBAN.validateNational X cc b = if czech b then .ok true else .err .invalidBBANChecksum := by
  obtain ⟨hlen, hd⟩ := length_digits_of_fits hf
  rw [layout_dispatch X hp hR b]
  simp +decide only [List.map, getSlice_of_le, hlen, cz_validate_val hU, allDigits_slice, hd]
  rfl

theorem iceland_rule (X : Ctx) (hU : X.U.WF) {cc : Str} {chk : Range}
    (hp : layoutAlgo X.T X.A .is_ cc (nCls 22) [⟨12, 22⟩] chk = true)
    (hR : ∀ x ∈ X.R, x.countryCode = cc → x.checksumAlgo = none)
    (b : Str) (hf : fitsClasses (nCls 22) b = true) :
    BBAN.validateNational X cc b = if iceland b then .ok true else .err .invalidBBANChecksum := by
  obtain ⟨hlen, hd⟩ := length_digits_of_fits hf
  rw [layout_dispatch X hp hR b]
  simp +decide only [List.map, getSlice_of_le, is_validate_val hU, allDigits_slice, hd, slice_length, hlen,
    slice_slice]
  rfl

/-- A BBAN fits the structure string of the country `cc` of the table. -/
def fitsCountry (T : Table) (cc b : Str) : Bool :=
  match T.lookup cc with
  | some e => fits e b
  | none => false

theorem fitsClasses_of_layout {T : Table} {A : AlgoTable} {alg : NatAlgo} {cc : Str}
    {cls : List SClass} {fields : List Range} {chk : Range}
    (hp : layoutAlgo T A alg cc cls fields chk = true) {b : Str}
    (hf : fitsCountry T cc b = true) : fitsClasses cls b = true := by
  obtain ⟨e, a, hl, -, -, -, -, hs⟩ := layoutAlgo_spec hp
  simpa only [fitsCountry, hl, fits_eq_of_classes hs] using hf

theorem live_layout_es : layoutAlgo Gen.table Gen.algoTable .es (bytes "ES") (nCls 20)
    [⟨0, 4⟩, ⟨4, 8⟩, ⟨10, 20⟩] ⟨8, 10⟩ = true := by decide +kernel
theorem live_layout_fr : layoutAlgo Gen.table Gen.algoTable .fr (bytes "FR")
    (nCls 10 ++ List.replicate 11 .c ++ nCls 2) [⟨0, 5⟩, ⟨5, 10⟩, ⟨10, 21⟩] ⟨21, 23⟩ = true := by
  decide +kernel
theorem live_layout_mc : layoutAlgo Gen.table Gen.algoTable .fr (bytes "MC")
    (nCls 10 ++ List.replicate 11 .c ++ nCls 2) [⟨0, 5⟩, ⟨5, 10⟩, ⟨10, 21⟩] ⟨21, 23⟩ = true := by
  decide +kernel
theorem live_layout_it : layoutAlgo Gen.table Gen.algoTable .it (bytes "IT")
    ([SClass.a] ++ nCls 10 ++ List.replicate 12 .c) [⟨1, 6⟩, ⟨6, 11⟩, ⟨11, 23⟩] ⟨0, 1⟩ = true := by
  decide +kernel
theorem live_layout_sm : layoutAlgo Gen.table Gen.algoTable .it (bytes "SM")
    ([SClass.a] ++ nCls 10 ++ List.replicate 12 .c) [⟨1, 6⟩, ⟨6, 11⟩, ⟨11, 23⟩] ⟨0, 1⟩ = true := by
  decide +kernel
theorem live_layout_fi : layoutAlgo Gen.table Gen.algoTable .fi (bytes "FI") (nCls 14)
    [⟨0, 3⟩, ⟨3, 13⟩] ⟨13, 14⟩ = true := by decide +kernel
theorem live_layout_no : layoutAlgo Gen.table Gen.algoTable .no (bytes "NO") (nCls 11)
    [⟨0, 4⟩, ⟨4, 10⟩] ⟨10, 11⟩ = true := by decide +kernel
theorem live_layout_pl : layoutAlgo Gen.table Gen.algoTable .pl (bytes "PL") (nCls 24)
    [⟨0, 3⟩, ⟨3, 7⟩] ⟨7, 8⟩ = true := by decide +kernel
theorem live_layout_ee : layoutAlgo Gen.table Gen.algoTable .ee (bytes "EE") (nCls 16)
    [⟨2, 4⟩, ⟨4, 15⟩] ⟨15, 16⟩ = true := by decide +kernel
theorem live_layout_cz : layoutAlgo Gen.table Gen.algoTable .czsk (bytes "CZ") (nCls 20)
    [⟨4, 10⟩, ⟨10, 20⟩] ⟨0, 0⟩ = true := by decide +kernel
theorem live_layout_sk : layoutAlgo Gen.table Gen.algoTable .czsk (bytes "SK") (nCls 20)
    [⟨4, 10⟩, ⟨10, 20⟩] ⟨0, 0⟩ = true := by decide +kernel
theorem live_layout_is : layoutAlgo Gen.table Gen.algoTable .is_ (bytes "IS") (nCls 22)
    [⟨12, 22⟩] ⟨0, 0⟩ = true := by decide +kernel

/-- The hypothesis "no bank entry of the country names a method" for the bundled registry's
    non-German countries is `live_only_de_names_methods`; the theorems below keep it explicit so
    that they hold for every registry. -/
abbrev NoMethodNames (R : Registry) (cc : Str) : Prop :=
  ∀ x ∈ R, x.countryCode = cc → x.checksumAlgo = none

theorem live_maxInt (R : Registry) : 11 ≤ (Gen.ctx R).U.maxIntDigits :=
  Nat.le_trans (by decide) (C10.unicode_wf.maxInt)

theorem live_spain (R : Registry) (hR : NoMethodNames R (bytes "ES")) (b : Str)
    (hf : fitsCountry Gen.table (bytes "ES") b = true) :
    BBAN.validateNational (Gen.ctx R) (bytes "ES") b =
      if spain b then .ok true else .err .invalidBBANChecksum :=
  spain_rule (Gen.ctx R) C10.unicode_wf live_layout_es hR b (fitsClasses_of_layout live_layout_es hf)

theorem live_france (R : Registry) (hR : NoMethodNames R (bytes "FR")) (b : Str)
    (hf : fitsCountry Gen.table (bytes "FR") b = true) :
    BBAN.validateNational (Gen.ctx R) (bytes "FR") b =
      if france b then .ok true else .err .invalidBBANChecksum :=
  france_rule (Gen.ctx R) live_layout_fr hR (live_maxInt R) b (fitsClasses_of_layout live_layout_fr hf)

theorem live_monaco (R : Registry) (hR : NoMethodNames R (bytes "MC")) (b : Str)
    (hf : fitsCountry Gen.table (bytes "MC") b = true) :
    BBAN.validateNational (Gen.ctx R) (bytes "MC") b =
      if france b then .ok true else .err .invalidBBANChecksum :=
  france_rule (Gen.ctx R) live_layout_mc hR (live_maxInt R) b (fitsClasses_of_layout live_layout_mc hf)

theorem live_italy (R : Registry) (hR : NoMethodNames R (bytes "IT")) (b : Str)
    (hf : fitsCountry Gen.table (bytes "IT") b = true) :
    BBAN.validateNational (Gen.ctx R) (bytes "IT") b =
      if italy b then .ok true else .err .invalidBBANChecksum :=
  italy_rule (Gen.ctx R) C10.unicode_wf live_layout_it hR b (fitsClasses_of_layout live_layout_it hf)

theorem live_san_marino (R : Registry) (hR : NoMethodNames R (bytes "SM")) (b : Str)
    (hf : fitsCountry Gen.table (bytes "SM") b = true) :
    BBAN.validateNational (Gen.ctx R) (bytes "SM") b =
      if italy b then .ok true else .err .invalidBBANChecksum :=
  italy_rule (Gen.ctx R) C10.unicode_wf live_layout_sm hR b (fitsClasses_of_layout live_layout_sm hf)

theorem live_finland (R : Registry) (hR : NoMethodNames R (bytes "FI")) (b : Str)
    (hf : fitsCountry Gen.table (bytes "FI") b = true) :
    BBAN.validateNational (Gen.ctx R) (bytes "FI") b =
      if finland b then .ok true else .err .invalidBBANChecksum :=
  finland_rule (Gen.ctx R) live_layout_fi hR b (fitsClasses_of_layout live_layout_fi hf)

theorem live_norway (R : Registry) (hR : NoMethodNames R (bytes "NO")) (b : Str)
    (hf : fitsCountry Gen.table (bytes "NO") b = true) :
    BBAN.validateNational (Gen.ctx R) (bytes "NO") b =
      if norwayUnusable b then .err .invalidAccountCode
      else if norway b then .ok true else .err .invalidBBANChecksum :=
  norway_rule (Gen.ctx R) C10.unicode_wf live_layout_no hR b (fitsClasses_of_layout live_layout_no hf)

theorem live_poland (R : Registry) (hR : NoMethodNames R (bytes "PL")) (b : Str)
    (hf : fitsCountry Gen.table (bytes "PL") b = true) :
    BBAN.validateNational (Gen.ctx R) (bytes "PL") b =
      if poland b then .ok true else .err .invalidBBANChecksum :=
  poland_rule (Gen.ctx R) C10.unicode_wf live_layout_pl hR b (fitsClasses_of_layout live_layout_pl hf)

theorem live_estonia (R : Registry) (hR : NoMethodNames R (bytes "EE")) (b : Str)
    (hf : fitsCountry Gen.table (bytes "EE") b = true) :
    BBAN.validateNational (Gen.ctx R) (bytes "EE") b =
      if estonia b then .ok true else .err .invalidBBANChecksum :=
  estonia_rule (Gen.ctx R) C10.unicode_wf live_layout_ee hR b (fitsClasses_of_layout live_layout_ee hf)

theorem live_czechia (R : Registry) (hR : NoMethodNames R (bytes "CZ")) (b : Str)
    (hf : fitsCountry Gen.table (bytes "CZ") b = true) :
    BBAN.validateNational (Gen.ctx R) (bytes "CZ") b =
      if czech b then .ok true else .err .invalidBBANChecksum :=
  czech_rule (Gen.ctx R) C10.unicode_wf live_layout_cz hR b (fitsClasses_of_layout live_layout_cz hf)

theorem live_slovakia (R : Registry) (hR : NoMethodNames R (bytes "SK")) (b : Str)
    (hf : fitsCountry Gen.table (bytes "SK") b = true) :
    BBAN.validateNational (Gen.ctx R) (bytes "SK") b =
      if czech b then .ok true else .err .invalidBBANChecksum :=
  czech_rule (Gen.ctx R) C10.unicode_wf live_layout_sk hR b (fitsClasses_of_layout live_layout_sk hf)

theorem live_iceland (R : Registry) (hR : NoMethodNames R (bytes "IS")) (b : Str)
    (hf : fitsCountry Gen.table (bytes "IS") b = true) :
    BBAN.validateNational (Gen.ctx R) (bytes "IS") b =
      if iceland b then .ok true else .err .invalidBBANChecksum :=
  iceland_rule (Gen.ctx R) C10.unicode_wf live_layout_is hR b (fitsClasses_of_layout live_layout_is hf)

theorem fitsCountry_of_isoValid {T : Table} {c : Str} (h : isoValid T c = true) :
    fitsCountry T (c.take 2) (c.drop 4) = true := by
  obtain ⟨e, hl, -, -, -, hf, -⟩ := (isoValid_iff T c).mp h
  simp only [fitsCountry, hl, hf]

/-- For a text that is valid without national validation, `IBAN(text, validate_bban=True)` is the
    national check of its BBAN (and returns the compact form when that passes); for any other text
    it fails exactly as it does without national validation. -/
theorem new_national_eq (X : Ctx) (hU : X.U.WF) (hT : X.T.WF) (s : Str) :
    IBAN.new X s false true =
      if isoValid X.T (clean X.U s) = true then
        (BBAN.validateNational X ((clean X.U s).take 2) ((clean X.U s).drop 4)).bind
          (fun _ => .ok (clean X.U s))
      else IBAN.new X s false false :=
  IBAN.new_bban_eq hU hT s

/-- **C06 at the IBAN level**, generic: if the national check of every structure-conforming BBAN of
    country `cc` is `if rule b then True else raise`, then an IBAN of that country is accepted with
    national validation exactly when it is valid without and its BBAN satisfies the rule. -/
theorem iban_accept_iff (X : Ctx) (hU : X.U.WF) (hT : X.T.WF) {cc : Str} {rule : Str → Bool}
    {err : Str → Err}
    (hrule : ∀ b, fitsCountry X.T cc b = true →
      BBAN.validateNational X cc b = if rule b then .ok true else .err (err b))
    (s : Str) (hcc : (clean X.U s).take 2 = cc) :
    (IBAN.new X s false true).isOk = true ↔
      isoValid X.T (clean X.U s) = true ∧ rule ((clean X.U s).drop 4) = true := by
  rw [new_national_eq X hU hT s]
  by_cases hv : isoValid X.T (clean X.U s) = true
  · rw [if_pos hv, hcc, hrule _ (hcc ▸ fitsCountry_of_isoValid hv)]
    cases rule ((clean X.U s).drop 4) <;> simp [hv, Res.bind]
  · have := mt (C01.accept_iff X hU hT s).mp hv
    simp [hv, this]

/-- **Error soundness with national validation** (C05's last clause, generic): an error raised by
    `IBAN(text, validate_bban=True)` is either the error the text gets without national validation
    (the text is not valid without it), or — the text being valid without it — the error of the
    national check of its BBAN; with the country's rule: the rule really fails for that BBAN. -/
theorem national_error_sound (X : Ctx) (hU : X.U.WF) (hT : X.T.WF) {cc : Str} {rule : Str → Bool}
    {err : Str → Err}
    (hrule : ∀ b, fitsCountry X.T cc b = true →
      BBAN.validateNational X cc b = if rule b then .ok true else .err (err b))
    (s : Str) (hcc : (clean X.U s).take 2 = cc) (k : Err) (h : IBAN.new X s false true = .err k) :
    (isoValid X.T (clean X.U s) = false ∧ IBAN.new X s false false = .err k) ∨
    (isoValid X.T (clean X.U s) = true ∧ rule ((clean X.U s).drop 4) = false ∧
      k = err ((clean X.U s).drop 4)) := by
  rw [new_national_eq X hU hT s] at h
  by_cases hv : isoValid X.T (clean X.U s) = true
  · rw [if_pos hv, hcc, hrule _ (hcc ▸ fitsCountry_of_isoValid hv)] at h
    cases hr : rule ((clean X.U s).drop 4) <;> simp [hr, Res.bind] at h
    exact Or.inr ⟨hv, rfl, h.symm⟩
  · rw [if_neg hv] at h
    exact Or.inl ⟨by simpa using hv, h⟩

theorem live_spain_iban (R : Registry) (hR : NoMethodNames R (bytes "ES")) (s : Str)
    (hcc : (clean Gen.unicode s).take 2 = bytes "ES") :
    (IBAN.new (Gen.ctx R) s false true).isOk = true ↔
      isoValid Gen.table (clean Gen.unicode s) = true ∧ spain ((clean Gen.unicode s).drop 4) = true :=
  iban_accept_iff (Gen.ctx R) C10.unicode_wf C01.table_wf (err := fun _ => .invalidBBANChecksum)
    (live_spain R hR) s hcc

theorem live_france_iban (R : Registry) (hR : NoMethodNames R (bytes "FR")) (s : Str)
    (hcc : (clean Gen.unicode s).take 2 = bytes "FR") :
    (IBAN.new (Gen.ctx R) s false true).isOk = true ↔
      isoValid Gen.table (clean Gen.unicode s) = true ∧ france ((clean Gen.unicode s).drop 4) = true :=
  iban_accept_iff (Gen.ctx R) C10.unicode_wf C01.table_wf (err := fun _ => .invalidBBANChecksum)
    (live_france R hR) s hcc

theorem live_norway_iban (R : Registry) (hR : NoMethodNames R (bytes "NO")) (s : Str)
    (hcc : (clean Gen.unicode s).take 2 = bytes "NO") :
    (IBAN.new (Gen.ctx R) s false true).isOk = true ↔
      isoValid Gen.table (clean Gen.unicode s) = true ∧ norway ((clean Gen.unicode s).drop 4) = true :=
  iban_accept_iff (Gen.ctx R) C10.unicode_wf C01.table_wf
    (rule := norway) (err := fun b => if norwayUnusable b then .invalidAccountCode else .invalidBBANChecksum)
    (fun b hb => by
      rw [live_norway R hR b hb]
      by_cases hu : norwayUnusable b = true
      · have : norway b = false := by simp [norway, hu]
        simp [hu, this]
      · simp [hu]) s hcc

theorem live_monaco_iban (R : Registry) (hR : NoMethodNames R (bytes "MC")) (s : Str)
    (hcc : (clean Gen.unicode s).take 2 = bytes "MC") :
    (IBAN.new (Gen.ctx R) s false true).isOk = true ↔
      isoValid Gen.table (clean Gen.unicode s) = true ∧ france ((clean Gen.unicode s).drop 4) = true :=
  iban_accept_iff (Gen.ctx R) C10.unicode_wf C01.table_wf (err := fun _ => .invalidBBANChecksum)
    (live_monaco R hR) s hcc

theorem live_italy_iban (R : Registry) (hR : NoMethodNames R (bytes "IT")) (s : Str)
    (hcc : (clean Gen.unicode s).take 2 = bytes "IT") :
    (IBAN.new (Gen.ctx R) s false true).isOk = true ↔
      isoValid Gen.table (clean Gen.unicode s) = true ∧ italy ((clean Gen.unicode s).drop 4) = true :=
  iban_accept_iff (Gen.ctx R) C10.unicode_wf C01.table_wf (err := fun _ => .invalidBBANChecksum)
    (live_italy R hR) s hcc

theorem live_san_marino_iban (R : Registry) (hR : NoMethodNames R (bytes "SM")) (s : Str)
    (hcc : (clean Gen.unicode s).take 2 = bytes "SM") :
    (IBAN.new (Gen.ctx R) s false true).isOk = true ↔
      isoValid Gen.table (clean Gen.unicode s) = true ∧ italy ((clean Gen.unicode s).drop 4) = true :=
  iban_accept_iff (Gen.ctx R) C10.unicode_wf C01.table_wf (err := fun _ => .invalidBBANChecksum)
    (live_san_marino R hR) s hcc

theorem live_finland_iban (R : Registry) (hR : NoMethodNames R (bytes "FI")) (s : Str)
    (hcc : (clean Gen.unicode s).take 2 = bytes "FI") :
    (IBAN.new (Gen.ctx R) s false true).isOk = true ↔
      isoValid Gen.table (clean Gen.unicode s) = true ∧ finland ((clean Gen.unicode s).drop 4) = true :=
  iban_accept_iff (Gen.ctx R) C10.unicode_wf C01.table_wf (err := fun _ => .invalidBBANChecksum)
    (live_finland R hR) s hcc

theorem live_poland_iban (R : Registry) (hR : NoMethodNames R (bytes "PL")) (s : Str)
    (hcc : (clean Gen.unicode s).take 2 = bytes "PL") :
    (IBAN.new (Gen.ctx R) s false true).isOk = true ↔
      isoValid Gen.table (clean Gen.unicode s) = true ∧ poland ((clean Gen.unicode s).drop 4) = true :=
  iban_accept_iff (Gen.ctx R) C10.unicode_wf C01.table_wf (err := fun _ => .invalidBBANChecksum)
    (live_poland R hR) s hcc

theorem live_estonia_iban (R : Registry) (hR : NoMethodNames R (bytes "EE")) (s : Str)
    (hcc : (clean Gen.unicode s).take 2 = bytes "EE") :
    (IBAN.new (Gen.ctx R) s false true).isOk = true ↔
      isoValid Gen.table (clean Gen.unicode s) = true ∧ estonia ((clean Gen.unicode s).drop 4) = true :=
  iban_accept_iff (Gen.ctx R) C10.unicode_wf C01.table_wf (err := fun _ => .invalidBBANChecksum)
    (live_estonia R hR) s hcc

theorem live_czechia_iban (R : Registry) (hR : NoMethodNames R (bytes "CZ")) (s : Str)
    (hcc : (clean Gen.unicode s).take 2 = bytes "CZ") :
    (IBAN.new (Gen.ctx R) s false true).isOk = true ↔
      isoValid Gen.table (clean Gen.unicode s) = true ∧ czech ((clean Gen.unicode s).drop 4) = true :=
  iban_accept_iff (Gen.ctx R) C10.unicode_wf C01.table_wf (err := fun _ => .invalidBBANChecksum)
    (live_czechia R hR) s hcc

theorem live_slovakia_iban (R : Registry) (hR : NoMethodNames R (bytes "SK")) (s : Str)
    (hcc : (clean Gen.unicode s).take 2 = bytes "SK") :
    (IBAN.new (Gen.ctx R) s false true).isOk = true ↔
      isoValid Gen.table (clean Gen.unicode s) = true ∧ czech ((clean Gen.unicode s).drop 4) = true :=
  iban_accept_iff (Gen.ctx R) C10.unicode_wf C01.table_wf (err := fun _ => .invalidBBANChecksum)
    (live_slovakia R hR) s hcc

theorem live_iceland_iban (R : Registry) (hR : NoMethodNames R (bytes "IS")) (s : Str)
    (hcc : (clean Gen.unicode s).take 2 = bytes "IS") :
    (IBAN.new (Gen.ctx R) s false true).isOk = true ↔
      isoValid Gen.table (clean Gen.unicode s) = true ∧ iceland ((clean Gen.unicode s).drop 4) = true :=
  iban_accept_iff (Gen.ctx R) C10.unicode_wf C01.table_wf (err := fun _ => .invalidBBANChecksum)
    (live_iceland R hR) s hcc

/-- On the live tables the side conditions of the ISO 7064 rules follow from fitting the
    structure: a BBAN has at most 30 characters, far below the `int()` digit limit. -/
theorem live_prefix_facts {alg : NatAlgo} {cc b : Str} {n : Nat}
    (hp : prefixAlgo Gen.table Gen.algoTable alg cc n = true)
    (hf : fitsCountry Gen.table cc b = true) :
    b.length = n + 2 ∧ allAlnum b = true ∧ 2 * b.length ≤ Gen.unicode.maxIntDigits := by
  obtain ⟨e, -, hl, -, -, -, -, hbl, -⟩ := prefixAlgo_spec hp
  simp only [fitsCountry, hl] at hf
  obtain ⟨hlen, hA⟩ := fits_facts C01.table_wf C02.live_no_blank_class hl hf
  have hW := C01.table_wf.of_lookup hl
  have h1 := hW.maxLen
  have h2 := hW.ibanLen
  have h3 : 100 ≤ Gen.unicode.maxIntDigits := C10.unicode_wf.maxInt
  exact ⟨by omega, hA, by omega⟩

theorem live_iso_default_rule (R : Registry) {p : String × Nat}
    (hp : p ∈ [("BA", 14), ("ME", 16), ("MK", 13), ("PT", 19), ("RS", 16), ("SI", 13), ("TL", 17)])
    (hR : NoMethodNames R (bytes p.1)) (b : Str) (hf : fitsCountry Gen.table (bytes p.1) b = true) :
    BBAN.validateNational (Gen.ctx R) (bytes p.1) b =
      if mod97_98 b p.2 then .ok true else .err .invalidBBANChecksum :=
  have hpa := List.all_eq_true.mp live_iso_default p hp
  have ⟨hl, hA, hm⟩ := live_prefix_facts hpa hf
  iso_default_rule (Gen.ctx R) C10.unicode_wf hpa hR hl hA hm

theorem live_iso_variant_rule (R : Registry) {p : String × Nat} (hp : p ∈ [("MR", 21), ("TN", 18)])
    (hR : NoMethodNames R (bytes p.1)) (b : Str) (hf : fitsCountry Gen.table (bytes p.1) b = true) :
    BBAN.validateNational (Gen.ctx R) (bytes p.1) b =
      if mod97_97 b p.2 then .ok true else .err .invalidBBANChecksum :=
  have hpa := List.all_eq_true.mp live_iso_variant p hp
  have ⟨hl, hA, hm⟩ := live_prefix_facts hpa hf
  iso_variant_rule (Gen.ctx R) C10.unicode_wf hpa hR hl hA hm

theorem live_belgium_rule (R : Registry) (hR : NoMethodNames R (bytes "BE")) (b : Str)
    (hf : fitsCountry Gen.table (bytes "BE") b = true) :
    BBAN.validateNational (Gen.ctx R) (bytes "BE") b =
      if belgium b then .ok true else .err .invalidBBANChecksum :=
  have ⟨hl, hA, hm⟩ := live_prefix_facts live_belgium hf
  belgium_rule (Gen.ctx R) C10.unicode_wf live_belgium hR hl hA hm

theorem live_iso_default_iban (R : Registry) {p : String × Nat}
    (hp : p ∈ [("BA", 14), ("ME", 16), ("MK", 13), ("PT", 19), ("RS", 16), ("SI", 13), ("TL", 17)])
    (hR : NoMethodNames R (bytes p.1)) (s : Str) (hcc : (clean Gen.unicode s).take 2 = bytes p.1) :
    (IBAN.new (Gen.ctx R) s false true).isOk = true ↔
      isoValid Gen.table (clean Gen.unicode s) = true ∧ mod97_98 ((clean Gen.unicode s).drop 4) p.2 = true :=
  iban_accept_iff (Gen.ctx R) C10.unicode_wf C01.table_wf (rule := fun b => mod97_98 b p.2)
    (err := fun _ => .invalidBBANChecksum) (live_iso_default_rule R hp hR) s hcc

theorem live_iso_variant_iban (R : Registry) {p : String × Nat} (hp : p ∈ [("MR", 21), ("TN", 18)])
    (hR : NoMethodNames R (bytes p.1)) (s : Str) (hcc : (clean Gen.unicode s).take 2 = bytes p.1) :
    (IBAN.new (Gen.ctx R) s false true).isOk = true ↔
      isoValid Gen.table (clean Gen.unicode s) = true ∧ mod97_97 ((clean Gen.unicode s).drop 4) p.2 = true :=
  iban_accept_iff (Gen.ctx R) C10.unicode_wf C01.table_wf (rule := fun b => mod97_97 b p.2)
    (err := fun _ => .invalidBBANChecksum) (live_iso_variant_rule R hp hR) s hcc

theorem live_belgium_iban (R : Registry) (hR : NoMethodNames R (bytes "BE")) (s : Str)
    (hcc : (clean Gen.unicode s).take 2 = bytes "BE") :
    (IBAN.new (Gen.ctx R) s false true).isOk = true ↔
      isoValid Gen.table (clean Gen.unicode s) = true ∧ belgium ((clean Gen.unicode s).drop 4) = true :=
  iban_accept_iff (Gen.ctx R) C10.unicode_wf C01.table_wf (err := fun _ => .invalidBBANChecksum)
    (live_belgium_rule R hR) s hcc

/-! ### Non-vacuity: known valid account numbers satisfy the published rules, neighbours do not -/

example : fitsCountry Gen.table (bytes "ES") (bytes "21000418450200051332") = true := by decide +kernel
example : spain (bytes "21000418450200051332") = true := by decide +kernel
example : spain (bytes "21000418460200051332") = false := by decide +kernel
example : france (bytes "20041010050500013M02606") = true := by decide +kernel
example : france (bytes "20041010050500013M02607") = false := by decide +kernel
example : italy (bytes "X0542811101000000123456") = true := by decide +kernel
example : italy (bytes "Y0542811101000000123456") = false := by decide +kernel
example : finland (bytes "12345600000785") = true := by decide +kernel
example : finland (bytes "12345600000786") = false := by decide +kernel
example : norway (bytes "86011117947") = true := by decide +kernel
example : norway (bytes "86011117948") = false := by decide +kernel
example : poland (bytes "109010140000071219812874") = true := by decide +kernel
example : poland (bytes "109010150000071219812874") = false := by decide +kernel
example : estonia (bytes "2200221020145685") = true := by decide +kernel
example : estonia (bytes "2200221020145686") = false := by decide +kernel
example : czech (bytes "08000000192000145399") = true := by decide +kernel
example : czech (bytes "08000000192000145398") = false := by decide +kernel
example : iceland (bytes "0159260076545510730339") = true := by decide +kernel
example : iceland (bytes "0159260076545510730349") = false := by decide +kernel

/-! ### The Spec against external data: the example IBANs of the SWIFT registry (the literals of the
    repository's test-suite, one or two per country) satisfy the published rule as written in `SV.Spec.National`. -/
example : belgium (bytes "539007547034") = true := by decide +kernel   -- BE
example : mod97_98 (bytes "1290079401028494") 14 = true := by decide +kernel   -- BA
example : czech (bytes "08000000192000145399") = true := by decide +kernel   -- CZ
example : czech (bytes "55000000001011038930") = true := by decide +kernel   -- CZ
example : estonia (bytes "2200221020145685") = true := by decide +kernel   -- EE
example : finland (bytes "12345600000785") = true := by decide +kernel   -- FI
example : france (bytes "20041010050500013M02606") = true := by decide +kernel   -- FR
example : iceland (bytes "0159260076545510730339") = true := by decide +kernel   -- IS
example : italy (bytes "X0542811101000000123456") = true := by decide +kernel   -- IT
example : mod97_98 (bytes "250120000058984") 13 = true := by decide +kernel   -- MK
example : mod97_97 (bytes "00020001010000123456753") 21 = true := by decide +kernel   -- MR
example : france (bytes "11222000010123456789030") = true := by decide +kernel   -- MC
example : mod97_98 (bytes "505000012345678951") 16 = true := by decide +kernel   -- ME
example : norway (bytes "86011117947") = true := by decide +kernel   -- NO
example : poland (bytes "109010140000071219812874") = true := by decide +kernel   -- PL
example : mod97_98 (bytes "000201231234567890154") 19 = true := by decide +kernel   -- PT
example : italy (bytes "U0322509800000000270100") = true := by decide +kernel   -- SM
example : mod97_98 (bytes "260005601001611379") 16 = true := by decide +kernel   -- RS
example : czech (bytes "12000000198742637541") = true := by decide +kernel   -- SK
example : mod97_98 (bytes "191000000123438") 13 = true := by decide +kernel   -- SI
example : spain (bytes "21000418450200051332") = true := by decide +kernel   -- ES
example : mod97_98 (bytes "0080012345678910157") 17 = true := by decide +kernel   -- TL
example : mod97_97 (bytes "10006035183598478831") 18 = true := by decide +kernel   -- TN

end SV.Props.C06
