/-
  C11 — An IBAN or BIC decomposes losslessly into its published fields.
-/
import SV.Props.C02
import SV.Props.C04
import SV.Proofs.FromComponents
namespace SV.Props.C11
open SV Spec

/-- country code + check digits + BBAN = compact form, for every compact text of at least four
    characters (in particular every accepted IBAN). -/
theorem parts_concat (U : Unicode) {c : Str} (hc : Compact U c) (h4 : 4 ≤ c.length) :
    IBAN.countryCode c ++ IBAN.checksumDigits c ++ IBAN.bban U c = c := by
  rw [countryCode_eq (by omega), checksumDigits_eq h4, bban_of_compact hc]
  obtain ⟨a, b, d1, d2, rest, rfl⟩ := list_ge4 h4
  rfl

/-- A published component is the BBAN substring at the published position; an unpublished one
    is empty. (`b.length = e.bbanLength` holds for every accepted IBAN's BBAN.) -/
theorem component_eq (T : Table) (hT : T.WF) {cc b : Str} {e : Country}
    (hl : T.lookup cc = some e) (hlen : b.length = e.bbanLength) (k : Component) :
    BBAN.component T cc b k =
      .ok (match (e.positions.getD []).lookup k with
           | some r => slice b r.start r.stop
           | none => []) := by
  unfold BBAN.component bbanSpec
  rw [hl]
  simp only [Res.ok_bind, Res.pure_eq]
  rw [getSlice_range (hT.of_lookup hl) hlen, cut_range_eq]
  rfl

/-- Published fields of a well-formed entry never overlap. -/
theorem fields_disjoint (T : Table) (hT : T.WF) {e : Country} (he : e ∈ T) :
    ∀ i j (hi : i < (e.positions.getD []).length) (hj : j < (e.positions.getD []).length), i < j →
      (e.positions.getD [])[i].1 ≠ (e.positions.getD [])[j].1 ∧
      ((e.positions.getD [])[i].2.stop ≤ (e.positions.getD [])[j].2.start ∨
       (e.positions.getD [])[j].2.stop ≤ (e.positions.getD [])[i].2.start) :=
  List.pairwise_iff_getElem.mp ((pairwiseDisjoint_iff _).mp (hT e he).disjoint)

/-- Re-assembling an accepted IBAN from its country code and BBAN gives the same IBAN. -/
theorem reassemble (X : Ctx) (hU : X.U.WF) (hT : X.T.WF) (s : Str)
    (h : (IBAN.new X s false false).isOk = true) :
    IBAN.fromBban X (IBAN.countryCode (clean X.U s)) (IBAN.bban X.U (clean X.U s)) false false =
      .ok (clean X.U s) := by
  have hc := compact_clean hU s
  have hiso := (C01.accept_iff X hU hT s).mp h
  generalize clean X.U s = c at *
  obtain ⟨e, hl, hlen, hg2, hg3, hfit, hco⟩ := (isoValid_iff _ _).mp hiso
  have h4 : 4 ≤ c.length := by omega
  -- the given digits are the computed ones
  have hdd := ((checks_iff_checksumOk h4 hg2 hg3).mpr hco).2
  rw [countryCode_eq (by omega), bban_of_compact hc,
    C02.from_bban X hU hT hl hfit (not_mem_compact hU (compact_drop hc 4)).1, hdd]
  obtain ⟨a, b, d1, d2, rest, rfl⟩ := list_ge4 h4
  rfl

/-- For every accepted BIC: party prefix + country code + location code + branch code equals the
    compact form, and the branch code is empty exactly for the 8-character form. -/
theorem bic_parts (X : BicCtx) (hX : X.WF) (c : Str) (strict : Bool)
    (h : BIC.validate X c strict = .ok true) :
    BIC.bankCode c ++ BIC.countryCode c ++ BIC.locationCode c ++ BIC.branchCode c = c ∧
    (BIC.branchCode c = [] ↔ c.length = 8) := by
  have hlen := iso9362_length ((C04.validate_iff X hX c strict).mp h)
  obtain ⟨h1, h2, h3, h4, h5⟩ := bic_fields hlen
  rw [h1, h2, h3, h4]
  exact ⟨h5, by rw [List.drop_eq_nil_iff]; omega⟩

end SV.Props.C11
