/-
  C12 — Bank-code ↔ BIC lookups agree with the registry and with each other.

  All theorems are for EVERY registry `R` (any list of bank entries), no reference to the bundled
  one.  `RegistryBicsOk` (every non-empty BIC of the registry is valid and already in compact form)
  is the only hypothesis about the data; it is part of the C17 obligations on the bundled registry.
-/
import SV.Proofs.FromComponents
import SV.Gen.Ctx
namespace SV.Props.C12
open SV

/-- Every non-empty BIC listed in the registry is a valid BIC in compact form. -/
def RegistryBicsOk (X : BicCtx) (R : Registry) : Prop :=
  ∀ e ∈ R, ∀ b, e.bic = some b → b ≠ [] → BIC.new X b false false = .ok b

/-- An unlisted pair raises `InvalidBankCode` — from both lookups. -/
theorem unlisted (X : BicCtx) (R : Registry) (cc code : Str)
    (h : R.byBankCode cc code = none) :
    BIC.candidates X R cc code = .err .invalidBankCode ∧
    BIC.fromBankCode X R cc code = .err .invalidBankCode := by
  unfold BIC.fromBankCode BIC.candidates
  rw [h]
  exact ⟨rfl, rfl⟩

/-- The candidates are exactly the non-empty BICs the registry lists for the pair — those of the
    primary entries first, each group in file order. -/
theorem candidates_listed (X : BicCtx) (R : Registry) (hR : RegistryBicsOk X R) (cc code : Str)
    (l : List BankEntry) (h : R.byBankCode cc code = some l) :
    BIC.candidates X R cc code = .ok ((sortPrimaryFirst l).filterMap BankEntry.bic?) := by
  unfold BIC.candidates
  rw [h]
  refine bicsOf_eq_filterMap X _ fun e he b hb hne => ?_
  rw [mem_sortPrimaryFirst, Registry.mem_byBankCode h] at he
  exact hR e he.1 b hb hne

/-- The selection rule of the property: an 8-character candidate if any (the greatest such),
    else one with branch `XXX` (the greatest such), else the first. -/
def specChoice (cands : List Str) : Option Str :=
  match maxStr (cands.filter (fun c => BIC.branchCode c == [])) with
  | some m => some m
  | none => match maxStr (cands.filter (fun c => BIC.branchCode c == [88, 88, 88])) with
    | some m => some m
    | none => cands.head?

theorem specChoice_eq_some {cands : List Str} {b : Str} (hb : specChoice cands = some b) :
    maxStr (cands.filter (fun c => BIC.branchCode c == [])) = some b ∨
    maxStr (cands.filter (fun c => BIC.branchCode c == [])) = none ∧
      (maxStr (cands.filter (fun c => BIC.branchCode c == [88, 88, 88])) = some b ∨
       maxStr (cands.filter (fun c => BIC.branchCode c == [88, 88, 88])) = none ∧
         cands.head? = some b) := by
  unfold specChoice at hb
  split at hb
  · rename_i h; exact .inl (h ▸ hb)
  · rename_i h1
    split at hb
    · rename_i h; exact .inr ⟨h1, .inl (h ▸ hb)⟩
    · rename_i h; exact .inr ⟨h1, .inr ⟨h, hb⟩⟩

theorem choice (X : BicCtx) (R : Registry) (cc code : Str) (cands : List Str)
    (h : BIC.candidates X R cc code = .ok cands) :
    BIC.fromBankCode X R cc code =
      (match specChoice cands with
       | some b => .ok b
       | none => .err .invalidBankCode) ∧
    (∀ b, specChoice cands = some b → b ∈ cands) := by
  constructor
  · unfold BIC.fromBankCode
    rw [h]
    simp only [Res.ok_bind]
    unfold specChoice
    match cands with
    | [] => rfl
    | [c] =>
      -- a single candidate: the guard `len > 1` is false, the rule gives the same answer
      simp only [List.length_singleton, Nat.lt_irrefl, ↓reduceIte, List.filter_cons, List.filter_nil,
        List.head?_cons]
      cases BIC.branchCode c == [] <;> cases BIC.branchCode c == [88, 88, 88] <;> rfl
    | c :: d :: t =>
      have : (c :: d :: t).length > 1 := by simp
      simp only [this, ↓reduceIte]
      cases maxStr ((c :: d :: t).filter (fun c => BIC.branchCode c == [])) with
      | some m => rfl
      | none =>
        cases maxStr ((c :: d :: t).filter (fun c => BIC.branchCode c == [88, 88, 88])) <;> rfl
  · intro b hb
    rcases specChoice_eq_some hb with h | ⟨_, h | ⟨_, h⟩⟩
    · exact (maxStr_filter_some h).1
    · exact (maxStr_filter_some h).1
    · exact List.mem_of_mem_head? h

/-- The chosen BIC has no branch part whenever some candidate has none, and is then the
    greatest such candidate; otherwise likewise for branch `XXX`. -/
theorem choice_prefers_generic (cands : List Str) (b : Str) (hb : specChoice cands = some b) :
    ((∃ c ∈ cands, BIC.branchCode c = []) →
        BIC.branchCode b = [] ∧ ∀ c ∈ cands, BIC.branchCode c = [] → strLt b c = false) ∧
    ((¬ ∃ c ∈ cands, BIC.branchCode c = []) → (∃ c ∈ cands, BIC.branchCode c = [88, 88, 88]) →
        BIC.branchCode b = [88, 88, 88] ∧
        ∀ c ∈ cands, BIC.branchCode c = [88, 88, 88] → strLt b c = false) := by
  -- a clause that produced `b` gives the conclusion; a clause that produced nothing refutes `∃`
  have some_ {x : Str} (h : maxStr (cands.filter (fun c => BIC.branchCode c == x)) = some b) :
      BIC.branchCode b = x ∧ ∀ c ∈ cands, BIC.branchCode c = x → strLt b c = false := by
    simpa using (maxStr_filter_some h).2
  have none_ {x : Str} (h : maxStr (cands.filter (fun c => BIC.branchCode c == x)) = none) :
      ¬ ∃ c ∈ cands, BIC.branchCode c = x := by
    simpa using maxStr_filter_none.mp h
  rcases specChoice_eq_some hb with h | ⟨h1, h | ⟨h2, _⟩⟩
  · exact ⟨fun _ => some_ h, fun hno _ => absurd ⟨b, (maxStr_filter_some h).1, (some_ h).1⟩ hno⟩
  · exact ⟨fun hex => absurd hex (none_ h1), fun _ _ => some_ h⟩
  · exact ⟨fun hex => absurd hex (none_ h1), fun _ hex => absurd hex (none_ h2)⟩

/-- The mapping is invertible: every candidate lists the bank code among its domestic bank codes
    and reports that it exists. -/
theorem inverse (X : BicCtx) (R : Registry) (hR : RegistryBicsOk X R) (cc code : Str)
    (cands : List Str) (h : BIC.candidates X R cc code = .ok cands) (b : Str) (hb : b ∈ cands) :
    code ∈ BIC.domesticBankCodes R b ∧ BIC.exists_ R b = true := by
  cases hl : R.byBankCode cc code with
  | none => rw [(unlisted X R cc code hl).1] at h; cases h
  | some l =>
    rw [candidates_listed X R hR cc code l hl] at h
    obtain rfl := Res.ok.inj h
    -- `b` is the BIC of an entry `e` listed for the pair, so `e` is in `b`'s bucket
    obtain ⟨e, he, hbic⟩ := List.mem_filterMap.mp hb
    have ⟨hbic, hne⟩ := BankEntry.bic?_eq_some.mp hbic
    rw [mem_sortPrimaryFirst, Registry.mem_byBankCode hl] at he
    have hin : e ∈ R.byBic b := Registry.mem_byBic.mpr ⟨hne, he.1, hbic⟩
    refine ⟨(mem_sortedSet _ _).mpr (List.mem_map.mpr ⟨e, hin, he.2.2⟩), ?_⟩
    unfold BIC.exists_
    simpa using List.ne_nil_of_mem hin

/-- `iban.bank` is the first registry entry for the key formed from the country's
    bank-identifying fields, or `None`. -/
theorem bban_bank (X : Ctx) {cc b : Str} {e : Country} (hl : X.T.lookup cc = some e) :
    BBAN.bank X cc b = .ok ((X.R.byBankCode cc (lookupKey e b)).bind List.head?) :=
  BBAN.bank_eq X hl

/-- `iban.bic` is `BIC.from_bank_code` on that key, `None` when it raises a library error. -/
theorem bban_bic (X : Ctx) {cc b : Str} {e : Country} (hl : X.T.lookup cc = some e) :
    BBAN.bic X cc b =
      match BIC.fromBankCode X.B X.R cc (lookupKey e b) with
      | .ok x => .ok (some x)
      | .err _ => .ok none
      | .crash c => .crash c := by
  unfold BBAN.bic bbanSpec
  rw [hl]
  simp only [Res.ok_bind]
  cases BIC.fromBankCode X.B X.R cc (lookupKey e b) <;> rfl

/-! Non-vacuity: a registry with ties, an empty BIC, a null BIC and a non-primary entry. -/
def demoR : Registry :=
  [⟨[68, 69], [49], some [71, 69, 78, 79, 68, 69, 77, 49, 71, 76, 83], false, none, [], []⟩,
   ⟨[68, 69], [49], some [], true, none, [], []⟩,
   ⟨[68, 69], [49], none, true, none, [], []⟩,
   ⟨[68, 69], [49], some [71, 69, 78, 79, 68, 69, 77, 49], true, none, [], []⟩]

theorem demoR_candidates : BIC.candidates Gen.bicCtx demoR [68, 69] [49] =
    .ok [[71, 69, 78, 79, 68, 69, 77, 49], [71, 69, 78, 79, 68, 69, 77, 49, 71, 76, 83]] := by
  decide +kernel

example : BIC.candidates Gen.bicCtx demoR [68, 69] [49] =
    .ok [[71, 69, 78, 79, 68, 69, 77, 49], [71, 69, 78, 79, 68, 69, 77, 49, 71, 76, 83]] :=
  demoR_candidates
example : BIC.fromBankCode Gen.bicCtx demoR [68, 69] [49] = .ok [71, 69, 78, 79, 68, 69, 77, 49] :=
  (choice _ _ _ _ _ demoR_candidates).1.trans (by decide)

end SV.Props.C12
