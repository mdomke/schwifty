/-
  C13 — Random generation is always valid, honours pinned fields, and is reproducible.

  PARTIAL.  `BBAN.random` / `IBAN.random` are modelled as pure functions of the arguments and an
  explicit choice record (the bank index `random.choice` picked, the strings `rstr.xeger` returned).
  Proved: whatever the choice record is, `IBAN.random` never returns an invalid object — any result
  is accepted again by the validating constructor and is its own compact form; the only library
  errors are the documented overflow error and `InvalidCountryCode` for an unknown country; the
  result is a function of arguments and choice record (nothing else — no hash seed, no history).
  Not provable here: that `random.Random(seed)` and `rstr.xeger` are deterministic functions of the
  seed and honour the pattern.  Pinned-field read-back and listed-bank membership are proved in
  `C13Pinned.lean` (and exercised with recorded choice records).
-/
import SV.Model.Random
import SV.Proofs.IbanValidate
import SV.Model.Iban
namespace SV.Props.C13
open SV

/-- **Never an invalid object**: for every country, registry mode, pinned components and every
    choice record, a returned IBAN is valid (the validating constructor accepts it and returns it). -/
theorem random_valid (X : Ctx) (hU : X.U.WF) (cc : Str) (useReg : Bool)
    (pinned : List (Component × Str)) (ch : Choice) (i : Str)
    (h : IBAN.random X cc useReg pinned ch = .ok i) : IBAN.new X i false false = .ok i := by
  obtain ⟨b, -, h⟩ := Res.bind_eq_ok h
  obtain ⟨dd, -, h⟩ := Res.bind_eq_ok h
  exact IBAN.new_idem hU h

/-- **The retry loop**: it ends in the overflow error, or with the outcome of `from_components` on
    the components of one attempt, and that outcome is no library error (those are retried). -/
theorem randomLoop_cases (X : Ctx) (cc : Str) (e : Country) (bank : Option BankEntry)
    (pinned : List (Component × Str)) : ∀ (n : Nat) (xs : List Str),
    randomLoop X cc e bank pinned n xs = .err .generateRandomOverflow ∨
    ∃ x ∈ xs, randomLoop X cc e bank pinned n xs =
        BBAN.fromComponents X cc (randomComponents e bank pinned (pyUpper X.U x)) ∧
      ∀ k, randomLoop X cc e bank pinned n xs ≠ .err k
  | 0, _ => Or.inl rfl
  | _ + 1, [] => Or.inl rfl
  | n + 1, x :: xs => by
    simp only [randomLoop]
    split
    · rename_i hb
      exact Or.inr ⟨x, List.mem_cons_self, hb.symm, fun _ h => nomatch h⟩
    · rcases randomLoop_cases X cc e bank pinned n xs with h | ⟨y, hy, h⟩
      · exact Or.inl h
      · exact Or.inr ⟨y, List.mem_cons_of_mem _ hy, h⟩
    · rename_i hb
      exact Or.inr ⟨x, List.mem_cons_self, hb.symm, fun _ h => nomatch h⟩

theorem loop_errors (X : Ctx) (cc : Str) (e : Country) (bank : Option BankEntry)
    (pinned : List (Component × Str)) (n : Nat) (xs : List Str) (k : Err)
    (h : randomLoop X cc e bank pinned n xs = .err k) : k = .generateRandomOverflow := by
  rcases randomLoop_cases X cc e bank pinned n xs with h' | ⟨_, _, _, h'⟩
  · rw [h'] at h; cases h; rfl
  · exact absurd h (h' k)

theorem loop_ok (X : Ctx) (cc : Str) (e : Country) (bank : Option BankEntry)
    (pinned : List (Component × Str)) (n : Nat) (xs : List Str) (b : Str)
    (h : randomLoop X cc e bank pinned n xs = .ok b) :
    ∃ x ∈ xs, BBAN.fromComponents X cc (randomComponents e bank pinned (pyUpper X.U x)) = .ok b := by
  rcases randomLoop_cases X cc e bank pinned n xs with h' | ⟨x, hx, h', _⟩
  · rw [h'] at h; cases h
  · exact ⟨x, hx, h' ▸ h⟩

/-- The only library errors of BBAN generation are the documented overflow error and
    `InvalidCountryCode` (unknown country): errors of individual attempts never escape. -/
theorem bban_random_errors (X : Ctx) (cc : Str) (useReg : Bool) (pinned : List (Component × Str))
    (ch : Choice) (k : Err) (h : BBAN.random X cc useReg pinned ch = .err k) :
    k = .generateRandomOverflow ∨ k = .invalidCountryCode := by
  unfold BBAN.random bbanSpec at h
  cases hl : X.T.lookup cc with
  | none => rw [hl] at h; right; simpa using h.symm
  | some e =>
    rw [hl] at h
    simp only [Res.ok_bind] at h
    left
    split at h
    · split at h
      · cases h
      · simpa using h.symm
    · exact loop_errors X cc e _ pinned 100 ch.xegers k h

/-- Reproducibility, as far as the library is concerned: the result is determined by the arguments
    and the choice record. -/
theorem random_is_function (X : Ctx) (cc : Str) (useReg : Bool) (pinned : List (Component × Str))
    (ch ch' : Choice) (h1 : ch.bank = ch'.bank) (h2 : ch.xegers = ch'.xegers) :
    IBAN.random X cc useReg pinned ch = IBAN.random X cc useReg pinned ch' := by
  cases ch; cases ch'; simp only at h1 h2; subst h1 h2; rfl

end SV.Props.C13
