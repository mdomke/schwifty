/-
  C08 — Generated IBANs carry exactly the supplied components, padded, never altered.

  Proved here, for every well-formed table and every component strings (any length, any code
  points): padding (`zfill`) keeps every supplied character; the placement theorem — after all
  components have been written each one is found unchanged at its published position, because
  published fields are disjoint and inside the BBAN; the error class for an over-long component
  (bank, branch, account — in that order) and for an unknown country / a country without
  positions.  The end-to-end statements — `generate` is total, and a returned IBAN is accepted and
  carries every supplied component at its published position — are in `C08EndToEnd.lean`.
-/
import SV.Proofs.FromComponents
import SV.Gen.Ctx
namespace SV.Props.C08
open SV

/-- Padding never drops, truncates or changes a supplied character: the result has length
    `max(len, width)`, and consists of zeros followed by the value (after a leading sign, if the
    value starts with `+`/`-`, as `str.zfill` does). -/
theorem padding (s : Str) (w : Nat) :
    (zfill s w).length = max s.length w ∧
    ((∀ c, s.head? = some c → c ≠ 43 ∧ c ≠ 45) → zfill s w = List.replicate (w - s.length) 48 ++ s) :=
  ⟨zfill_length s w, zfill_nosign s w⟩

/-- **Placement**: whatever the component values are (as long as each published one has exactly
    its field width), after writing all eight components in `Component` order into a BBAN of the
    country's length, every published component sits unchanged at its published position. -/
theorem placement {e : Country} (hW : e.WF) (c : Comps)
    (hlen : ∀ k r, publishedAt e k r → (c k).length = r.stop - r.start)
    (b : Str) (hb : b.length = e.bbanLength) (j : Component) (r : Range) (hp : publishedAt e j r) :
    slice (overlayAll e c Component.all b) r.start r.stop = c j ∧
    (overlayAll e c Component.all b).length = e.bbanLength := by
  have ⟨hl, hs, _⟩ := overlayAll_spec hW c Component.all b (by decide) hb
    (fun k _ hk => hlen k _ (published_of_nonempty hk))
  have := hs j j.mem_all (hW.range_isEmpty hp)
  rw [range_of_published hp] at this
  exact ⟨this, hl⟩

/-- Unknown country: `InvalidCountryCode`; known country without published positions: the library's
    root error. -/
theorem unknown_country (X : Ctx) (cc : Str) (vs : List (Component × Str))
    (h : X.T.lookup cc = none) : BBAN.fromComponents X cc vs = .err .invalidCountryCode := by
  rw [fromComponents_eq, h]

theorem no_positions (X : Ctx) (cc : Str) (vs : List (Component × Str)) (e : Country)
    (h : X.T.lookup cc = some e) (hp : e.positions = none) :
    BBAN.fromComponents X cc vs = .err .schwifty := by
  rw [fromComponents_eq, h]; simp only [hp, Option.isNone_none, ↓reduceIte]

/-- The combined bank+branch split happens only when the country has a branch field, no branch
    code was supplied and the (padded) bank code has exactly the combined width. -/
def splits (X : Ctx) (e : Country) (vs : List (Component × Str)) : Bool :=
  (e.range .branchCode).length > 0 && clean X.U (valuesGet vs .branchCode) == [] &&
    (zfill (clean X.U (valuesGet vs .bankCode)) (e.range .bankCode).length).length ==
      (e.range .bankCode).length + (e.range .branchCode).length

/-- The three length guards, in the order `from_components` applies them, when no combined-width
    split happens: the first cleaned value that is longer than its field decides the error. -/
theorem guards (X : Ctx) (cc : Str) (vs : List (Component × Str)) (e : Country)
    (h : X.T.lookup cc = some e) (hp : e.positions.isSome = true) (hs : splits X e vs = false) :
    BBAN.fromComponents X cc vs =
      if (clean X.U (valuesGet vs .bankCode)).length > (e.range .bankCode).length then .err .invalidBankCode
      else if (clean X.U (valuesGet vs .branchCode)).length > (e.range .branchCode).length then
        .err .invalidBranchCode
      else if (clean X.U (valuesGet vs .accountCode)).length > (e.range .accountCode).length then
        .err .invalidAccountCode
      else (computeNationalChecksum X cc (splitComps X e vs)).bind (fun cs =>
        Res.ok (clean X.U (overlayAll e (withChecksum (splitComps X e vs) cs) Component.all (zeros e)))) := by
  have hnone := Option.isNone_eq_false_iff.mpr hp
  rw [fromComponents_eq, h]
  simp only [hnone, Bool.false_eq_true, ↓reduceIte, splitComps_gt_plain X e vs hs]

theorem too_long_bank (X : Ctx) (cc : Str) (vs : List (Component × Str)) (e : Country)
    (h : X.T.lookup cc = some e) (hp : e.positions.isSome = true) (hs : splits X e vs = false)
    (hl : (clean X.U (valuesGet vs .bankCode)).length > (e.range .bankCode).length) :
    BBAN.fromComponents X cc vs = .err .invalidBankCode := by
  rw [guards X cc vs e h hp hs, if_pos hl]

theorem too_long_branch (X : Ctx) (cc : Str) (vs : List (Component × Str)) (e : Country)
    (h : X.T.lookup cc = some e) (hp : e.positions.isSome = true) (hs : splits X e vs = false)
    (hb : (clean X.U (valuesGet vs .bankCode)).length ≤ (e.range .bankCode).length)
    (hl : (clean X.U (valuesGet vs .branchCode)).length > (e.range .branchCode).length) :
    BBAN.fromComponents X cc vs = .err .invalidBranchCode := by
  rw [guards X cc vs e h hp hs, if_neg (Nat.not_lt.mpr hb), if_pos hl]

theorem too_long_account (X : Ctx) (cc : Str) (vs : List (Component × Str)) (e : Country)
    (h : X.T.lookup cc = some e) (hp : e.positions.isSome = true) (hs : splits X e vs = false)
    (hb : (clean X.U (valuesGet vs .bankCode)).length ≤ (e.range .bankCode).length)
    (hbr : (clean X.U (valuesGet vs .branchCode)).length ≤ (e.range .branchCode).length)
    (hl : (clean X.U (valuesGet vs .accountCode)).length > (e.range .accountCode).length) :
    BBAN.fromComponents X cc vs = .err .invalidAccountCode := by
  rw [guards X cc vs e h hp hs, if_neg (Nat.not_lt.mpr hb), if_neg (Nat.not_lt.mpr hbr), if_pos hl]

/-! Non-vacuity: the German entry of the live table publishes the account code at [8,18). -/
example : (match Gen.table.lookup [68, 69] with
    | some e => (e.positions.getD []).lookup Component.accountCode == some ⟨8, 18⟩
    | none => false) = true := by decide +kernel

end SV.Props.C08
