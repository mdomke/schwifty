/-
  C07 at the IBAN level — "for a German IBAN whose bank code is listed … with a method the library
  implements, national validation accepts the IBAN exactly when that method accepts the ten-digit
  account number".  `SV.Props.C07IbanAll` puts the 39 method theorems in.
-/
import SV.Props.C07
import SV.Props.C01
namespace SV.Props.C07
open SV Spec

/-- **German IBANs, generic**: for a text that is valid without national validation, whose
    country's layout reads the account number at `bban[8:18]`, and whose bank's FIRST registry entry
    names a method registered with parameters `p`, `IBAN(text, validate_bban=True)` succeeds exactly
    when the engine instantiated with `p` accepts the ten account digits. -/
theorem german_iban_level (X : Ctx) (hU : X.U.WF) (hT : X.T.WF) (s : Str) {cc : Str} {e : Country}
    (hv : isoValid X.T (clean X.U s) = true) (hcc : (clean X.U s).take 2 = cc)
    (hl : X.T.lookup cc = some e)
    (hacc : e.range .accountCode = ⟨8, 18⟩) (hblen : e.bbanLength = 18)
    {x : BankEntry} {t : List BankEntry}
    (hb : X.R.byBankCode cc (lookupKey e ((clean X.U s).drop 4)) = some (x :: t))
    {name : Str} (hname : x.checksumAlgo = some name)
    {a : AlgoEntry} {p : DEParams} (ha : X.A.get (cc ++ [colon] ++ name) = some a)
    (href : a.ref = .de p) (haccepts : a.accepts = [.accountCode]) :
    (IBAN.new X s false true).isOk =
      deAccepts (p.validateM X.U [slice ((clean X.U s).drop 4) 8 18] ⟨0⟩).2 := by
  have hlen : ((clean X.U s).drop 4).length = 18 := by
    rw [List.length_drop, (isoValid_of_lookup hv (hcc.symm ▸ hl)).1, hblen]
  rw [IBAN.new_bban_eq hU hT s, if_pos hv, hcc, dispatch X hl]
  simp only [hb, hname, Option.getD_some, ha, href, AlgoRef.validate, haccepts, componentsOf, hacc]
  rw [getSlice_of_le (by omega)]
  -- a returned `True` goes through the two `bind`s, everything else stops at the first
  rcases (p.validateM X.U [slice ((clean X.U s).drop 4) 8 18] ⟨0⟩).2 with (_ | _) | _ | _ <;> rfl

/-- The German structure string is eighteen digits (positions and length: `live_de_positions`). -/
theorem live_de_layout : (match Gen.table.lookup (C06.bytes "DE") with
    | some e => (parseSpec e.bbanSpec).map expandSpec == some (List.replicate 18 SClass.n)
    | none => false) = true := by decide +kernel

/-- **Every implemented method, on the live tables**: `german_iban_level` with the ten account
    digits `d1 … d10` (positions 12 … 21 of the compact IBAN) made explicit.  Composing with the
    method's theorem (`de00` … `de99`) replaces the right-hand side by the published rule. -/
theorem live_german_iban (R : Registry) (s : Str)
    (hv : isoValid Gen.table (clean Gen.unicode s) = true)
    (hcc : (clean Gen.unicode s).take 2 = C06.bytes "DE")
    {e : Country} (hl : Gen.table.lookup (C06.bytes "DE") = some e)
    {x : BankEntry} {t : List BankEntry}
    (hb : R.byBankCode (C06.bytes "DE") (lookupKey e ((clean Gen.unicode s).drop 4)) = some (x :: t))
    {name : Str} (hname : x.checksumAlgo = some name)
    {a : AlgoEntry} {p : DEParams} (ha : Gen.algoTable.get (C06.bytes "DE" ++ [colon] ++ name) = some a)
    (href : a.ref = .de p) (haccepts : a.accepts = [.accountCode]) :
    ∃ d1 d2 d3 d4 d5 d6 d7 d8 d9 d10, d1 < 10 ∧ d2 < 10 ∧ d3 < 10 ∧ d4 < 10 ∧ d5 < 10 ∧ d6 < 10 ∧
      d7 < 10 ∧ d8 < 10 ∧ d9 < 10 ∧ d10 < 10 ∧
      slice ((clean Gen.unicode s).drop 4) 8 18 = acct d1 d2 d3 d4 d5 d6 d7 d8 d9 d10 ∧
      (IBAN.new (Gen.ctx R) s false true).isOk =
        deAccepts (p.validateM Gen.unicode [acct d1 d2 d3 d4 d5 d6 d7 d8 d9 d10] ⟨0⟩).2 := by
  have hpos := live_de_positions
  have hcls := live_de_layout
  rw [hl] at hpos hcls
  simp only [Bool.and_eq_true, beq_iff_eq] at hpos hcls
  obtain ⟨⟨⟨hacc, -⟩, -⟩, hblen⟩ := hpos
  have hfc : fitsClasses (List.replicate 18 SClass.n) ((clean Gen.unicode s).drop 4) = true :=
    fits_eq_of_classes hcls _ ▸ (isoValid_of_lookup hv (hcc.symm ▸ hl)).2
  have h10 : fitsClasses (List.replicate 10 SClass.n) (slice ((clean Gen.unicode s).drop 4) 8 18) = true := by
    simpa [slice] using fitsClasses_drop 8 (fitsClasses_take 18 hfc)
  obtain ⟨d1, d2, d3, d4, d5, d6, d7, d8, d9, d10, g1, g2, g3, g4, g5, g6, g7, g8, g9, g10, hs⟩ :=
    acct_of_digits h10
  refine ⟨d1, d2, d3, d4, d5, d6, d7, d8, d9, d10, g1, g2, g3, g4, g5, g6, g7, g8, g9, g10, hs, ?_⟩
  rw [← hs]
  exact german_iban_level (Gen.ctx R) C10.unicode_wf C01.table_wf s hv hcc hl hacc hblen hb hname ha
    href haccepts

/-- **Every implemented method, on the live tables, in terms of its published rule**: if the engine
    with parameters `p` accepts ten digits exactly when `rule` holds of them (`hrule` is the statement
    of the method's theorem, `de00` … `de99`), a German IBAN whose bank's first entry names that method
    is accepted exactly when `rule` holds. -/
theorem live_german_iban_rule (R : Registry) (s : Str)
    (hv : isoValid Gen.table (clean Gen.unicode s) = true)
    (hcc : (clean Gen.unicode s).take 2 = C06.bytes "DE")
    {e : Country} (hl : Gen.table.lookup (C06.bytes "DE") = some e)
    {x : BankEntry} {t : List BankEntry}
    (hb : R.byBankCode (C06.bytes "DE") (lookupKey e ((clean Gen.unicode s).drop 4)) = some (x :: t))
    {name : Str} (hname : x.checksumAlgo = some name)
    {key : Str} {p : DEParams}
    (ha : Gen.algoTable.get (C06.bytes "DE" ++ [colon] ++ name) = some ⟨key, .de p, [.accountCode]⟩)
    {rule : Nat → Nat → Nat → Nat → Nat → Nat → Nat → Nat → Nat → Nat → Bool}
    (hrule : ∀ d1 d2 d3 d4 d5 d6 d7 d8 d9 d10, d1 < 10 → d2 < 10 → d3 < 10 → d4 < 10 → d5 < 10 →
      d6 < 10 → d7 < 10 → d8 < 10 → d9 < 10 → d10 < 10 → ∀ sc,
      deVerdict (p.validateM Gen.unicode [acct d1 d2 d3 d4 d5 d6 d7 d8 d9 d10] sc).2 = true ∧
      deAccepts (p.validateM Gen.unicode [acct d1 d2 d3 d4 d5 d6 d7 d8 d9 d10] sc).2 =
        rule d1 d2 d3 d4 d5 d6 d7 d8 d9 d10) :
    ∃ d1 d2 d3 d4 d5 d6 d7 d8 d9 d10,
      slice ((clean Gen.unicode s).drop 4) 8 18 = acct d1 d2 d3 d4 d5 d6 d7 d8 d9 d10 ∧
      (IBAN.new (Gen.ctx R) s false true).isOk = rule d1 d2 d3 d4 d5 d6 d7 d8 d9 d10 := by
  obtain ⟨d1, d2, d3, d4, d5, d6, d7, d8, d9, d10, g1, g2, g3, g4, g5, g6, g7, g8, g9, g10, hs, hok⟩ :=
    live_german_iban R s hv hcc hl hb hname ha rfl rfl
  exact ⟨d1, d2, d3, d4, d5, d6, d7, d8, d9, d10, hs,
    hok.trans (hrule d1 d2 d3 d4 d5 d6 d7 d8 d9 d10 g1 g2 g3 g4 g5 g6 g7 g8 g9 g10 ⟨0⟩).2⟩

/-- **Method 00, end to end on the live tables.** -/
theorem live_german_iban_00 (R : Registry) (s : Str)
    (hv : isoValid Gen.table (clean Gen.unicode s) = true)
    (hcc : (clean Gen.unicode s).take 2 = C06.bytes "DE")
    {e : Country} (hl : Gen.table.lookup (C06.bytes "DE") = some e)
    {x : BankEntry} {t : List BankEntry}
    (hb : R.byBankCode (C06.bytes "DE") (lookupKey e ((clean Gen.unicode s).drop 4)) = some (x :: t))
    (hname : x.checksumAlgo = some (C06.bytes "00")) :
    ∃ d1 d2 d3 d4 d5 d6 d7 d8 d9 d10,
      slice ((clean Gen.unicode s).drop 4) 8 18 = acct d1 d2 d3 d4 d5 d6 d7 d8 d9 d10 ∧
      (IBAN.new (Gen.ctx R) s false true).isOk =
        rule10 (dotQ [2, 1, 2, 1, 2, 1, 2, 1, 2] [d9, d8, d7, d6, d5, d4, d3, d2, d1]) d10 :=
  live_german_iban_rule R s hv hcc hl hb hname (by rfl) (de00 Gen.unicode C10.unicode_wf)

end SV.Props.C07
