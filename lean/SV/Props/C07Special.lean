/-
  The Bundesbank methods with special cases (ranges of account numbers, exceptions depending on
  further digits, modified sums).  Same statement as in `C07Plain`: for all ten digits the engine
  with the regenerated class parameters returns a verdict and accepts exactly when the published
  rule (SV.Spec.Germany / DESIGN.md Appendix A) does.  Each proof puts the lemma of the overriding
  hook (`SV.Proofs.GermanyEngine`) on top of the closed form of the base class.
-/
import SV.Proofs.GermanyEngine
import SV.Gen.Algorithms
namespace SV.Props.C07
open SV Spec

/-- Method 09: no check. -/
theorem de09 (U : Unicode) (a : Str) (sc : Scratch) :
    (Gen.de_DE_09.validateM U [a] sc).2 = .ok true := by
  simp [Gen.de_DE_09, DEParams.validateM, validateHook0, DEM.pure', pure]

/-- Method 16: like 06 over positions 1–9; remainder 1 with `d9 = d10` is also valid. -/
theorem de16 (U : Unicode) (hU : U.WF) (d1 d2 d3 d4 d5 d6 d7 d8 d9 d10 : Nat)
    (h1 : d1 < 10) (h2 : d2 < 10) (h3 : d3 < 10) (h4 : d4 < 10) (h5 : d5 < 10) (h6 : d6 < 10)
    (h7 : d7 < 10) (h8 : d8 < 10) (h9 : d9 < 10) (h10 : d10 < 10) (sc : Scratch) :
    deVerdict (Gen.de_DE_16.validateM U [acct d1 d2 d3 d4 d5 d6 d7 d8 d9 d10] sc).2 = true ∧
    deAccepts (Gen.de_DE_16.validateM U [acct d1 d2 d3 d4 d5 d6 d7 d8 d9 d10] sc).2 =
      rule16 (dot [2, 3, 4, 5, 6, 7, 2, 3, 4] [d9, d8, d7, d6, d5, d4, d3, d2, d1]) d9 d10 := by
  rw [acct_eq_digs, dot_eq_wsumBy, validateM_wm .a16 [.wm]]
  exact wm_rule16 hU (acct_digits_lt h1 h2 h3 h4 h5 h6 h7 h8 h9 h10)

/-- Method 23: like 16 over positions 1–6, check digit at 7, exception compares `d6` and `d7`. -/
theorem de23 (U : Unicode) (hU : U.WF) (d1 d2 d3 d4 d5 d6 d7 d8 d9 d10 : Nat)
    (h1 : d1 < 10) (h2 : d2 < 10) (h3 : d3 < 10) (h4 : d4 < 10) (h5 : d5 < 10) (h6 : d6 < 10)
    (h7 : d7 < 10) (h8 : d8 < 10) (h9 : d9 < 10) (h10 : d10 < 10) (sc : Scratch) :
    deVerdict (Gen.de_DE_23.validateM U [acct d1 d2 d3 d4 d5 d6 d7 d8 d9 d10] sc).2 = true ∧
    deAccepts (Gen.de_DE_23.validateM U [acct d1 d2 d3 d4 d5 d6 d7 d8 d9 d10] sc).2 =
      rule16 (dot [2, 3, 4, 5, 6, 7] [d6, d5, d4, d3, d2, d1]) d6 d7 := by
  rw [acct_eq_digs, dot_eq_wsumBy, validateM_wm .a16 [.wm]]
  exact wm_rule16 hU (acct_digits_lt h1 h2 h3 h4 h5 h6 h7 h8 h9 h10)

/-- Method 25: positions 2–9, weights 2…9; remainder 1 needs check digit 0 and `d2 ∈ {8, 9}`. -/
theorem de25 (U : Unicode) (hU : U.WF) (d1 d2 d3 d4 d5 d6 d7 d8 d9 d10 : Nat)
    (h1 : d1 < 10) (h2 : d2 < 10) (h3 : d3 < 10) (h4 : d4 < 10) (h5 : d5 < 10) (h6 : d6 < 10)
    (h7 : d7 < 10) (h8 : d8 < 10) (h9 : d9 < 10) (h10 : d10 < 10) (sc : Scratch) :
    deVerdict (Gen.de_DE_25.validateM U [acct d1 d2 d3 d4 d5 d6 d7 d8 d9 d10] sc).2 = true ∧
    deAccepts (Gen.de_DE_25.validateM U [acct d1 d2 d3 d4 d5 d6 d7 d8 d9 d10] sc).2 =
      rule25 (dot [2, 3, 4, 5, 6, 7, 8, 9] [d9, d8, d7, d6, d5, d4, d3, d2]) d2 d10 := by
  rw [acct_eq_digs, dot_eq_wsumBy, validateM_wm .a25 [.wm]]
  exact wm_rule25 hU (acct_digits_lt h1 h2 h3 h4 h5 h6 h7 h8 h9 h10)

/-- Method 08: like 00, but only from account number 60 000; smaller numbers are not checked. -/
theorem de08 (U : Unicode) (hU : U.WF) (d1 d2 d3 d4 d5 d6 d7 d8 d9 d10 : Nat)
    (h1 : d1 < 10) (h2 : d2 < 10) (h3 : d3 < 10) (h4 : d4 < 10) (h5 : d5 < 10) (h6 : d6 < 10)
    (h7 : d7 < 10) (h8 : d8 < 10) (h9 : d9 < 10) (h10 : d10 < 10) (sc : Scratch) :
    deVerdict (Gen.de_DE_08.validateM U [acct d1 d2 d3 d4 d5 d6 d7 d8 d9 d10] sc).2 = true ∧
    deAccepts (Gen.de_DE_08.validateM U [acct d1 d2 d3 d4 d5 d6 d7 d8 d9 d10] sc).2 =
      (decide (num [d1, d2, d3, d4, d5, d6, d7, d8, d9, d10] 0 < 60000) ||
       rule10 (dotQ [2, 1, 2, 1, 2, 1, 2, 1, 2] [d9, d8, d7, d6, d5, d4, d3, d2, d1]) d10) := by
  have hd := acct_digits_lt h1 h2 h3 h4 h5 h6 h7 h8 h9 h10
  have hn := pyIntStr_digs hU _ 0 false hd (.inl (List.cons_ne_nil _ _))
  rw [acct_eq_digs, dotQ_eq_wsumBy, validateM_eq (tags := [.a08, .wm]) rfl (by simp), validate_a08 _ hn,
    show Gen.de_DE_08.minAccount = 60000 from rfl]
  by_cases hlt : num [d1, d2, d3, d4, d5, d6, d7, d8, d9, d10] 0 < 60000
  · rw [if_pos hlt, decide_eq_true hlt]; exact ⟨rfl, rfl⟩
  · rw [if_neg hlt, decide_eq_false hlt, Bool.false_or]
    refine wm_rule10 hU hd (hcomp := ?_)
    rw [computeM_eq (tags := [.a08, .wm]) rfl (by simp), compute_a08 _ hn,
      show Gen.de_DE_08.minAccount = 60000 from rfl, if_neg hlt]; rfl

/-- Method 99: like 06; account numbers 0396000000 … 0499999999 are not checked (valid). -/
theorem de99 (U : Unicode) (hU : U.WF) (d1 d2 d3 d4 d5 d6 d7 d8 d9 d10 : Nat)
    (h1 : d1 < 10) (h2 : d2 < 10) (h3 : d3 < 10) (h4 : d4 < 10) (h5 : d5 < 10) (h6 : d6 < 10)
    (h7 : d7 < 10) (h8 : d8 < 10) (h9 : d9 < 10) (h10 : d10 < 10) (sc : Scratch) :
    deVerdict (Gen.de_DE_99.validateM U [acct d1 d2 d3 d4 d5 d6 d7 d8 d9 d10] sc).2 = true ∧
    deAccepts (Gen.de_DE_99.validateM U [acct d1 d2 d3 d4 d5 d6 d7 d8 d9 d10] sc).2 =
      (decide (396000000 ≤ num [d1, d2, d3, d4, d5, d6, d7, d8, d9, d10] 0 ∧
               num [d1, d2, d3, d4, d5, d6, d7, d8, d9, d10] 0 ≤ 499999999) ||
       rule06 (dot [2, 3, 4, 5, 6, 7, 2, 3, 4] [d9, d8, d7, d6, d5, d4, d3, d2, d1]) d10) := by
  have hd := acct_digits_lt h1 h2 h3 h4 h5 h6 h7 h8 h9 h10
  have hn := pyIntStr_digs hU _ 0 false hd (.inl (List.cons_ne_nil _ _))
  rw [acct_eq_digs, dot_eq_wsumBy, validateM_wm .a99 [.wm], validate_a99 _ hn]
  split
  · next h => rw [decide_eq_true h]; exact ⟨rfl, rfl⟩
  · next h =>
    rw [decide_eq_false h, Bool.false_or]
    exact wm_rule06 hU hd

/-- Method 63: `d1` must be 0; like 00 over positions 2–7, check digit at 8. -/
theorem de63 (U : Unicode) (hU : U.WF) (d1 d2 d3 d4 d5 d6 d7 d8 d9 d10 : Nat)
    (h1 : d1 < 10) (h2 : d2 < 10) (h3 : d3 < 10) (h4 : d4 < 10) (h5 : d5 < 10) (h6 : d6 < 10)
    (h7 : d7 < 10) (h8 : d8 < 10) (h9 : d9 < 10) (h10 : d10 < 10) (sc : Scratch) :
    deVerdict (Gen.de_DE_63.validateM U [acct d1 d2 d3 d4 d5 d6 d7 d8 d9 d10] sc).2 = true ∧
    deAccepts (Gen.de_DE_63.validateM U [acct d1 d2 d3 d4 d5 d6 d7 d8 d9 d10] sc).2 =
      (decide (d1 = 0) && rule10 (dotQ [2, 1, 2, 1, 2, 1] [d7, d6, d5, d4, d3, d2]) d8) := by
  have hi : pyIndex (digs [d1, d2, d3, d4, d5, d6, d7, d8, d9, d10]) 0 = .ok (48 + d1) :=
    pyIndex_digs (k := 0) (by simp)
  rw [acct_eq_digs, dotQ_eq_wsumBy, validateM_wm .a63 [.wm], validate_a63 _ hi]
  by_cases hz : d1 = 0
  · rw [if_neg (by omega), decide_eq_true hz, Bool.true_and]
    exact wm_rule10 hU (acct_digits_lt h1 h2 h3 h4 h5 h6 h7 h8 h9 h10)
  · rw [if_pos (by omega), decide_eq_false hz, Bool.false_and]; exact ⟨rfl, rfl⟩

/-- Method 17: positions 2–7 left to right with weights 1, 2, …, cross sums; `r = (s − 1) mod 11`. -/
theorem de17 (U : Unicode) (hU : U.WF) (d1 d2 d3 d4 d5 d6 d7 d8 d9 d10 : Nat)
    (h1 : d1 < 10) (h2 : d2 < 10) (h3 : d3 < 10) (h4 : d4 < 10) (h5 : d5 < 10) (h6 : d6 < 10)
    (h7 : d7 < 10) (h8 : d8 < 10) (h9 : d9 < 10) (h10 : d10 < 10) (sc : Scratch) :
    deVerdict (Gen.de_DE_17.validateM U [acct d1 d2 d3 d4 d5 d6 d7 d8 d9 d10] sc).2 = true ∧
    deAccepts (Gen.de_DE_17.validateM U [acct d1 d2 d3 d4 d5 d6 d7 d8 d9 d10] sc).2 =
      rule17 (dotQ [1, 2, 1, 2, 1, 2] [d2, d3, d4, d5, d6, d7]) d8 := by
  rw [acct_eq_digs, validateM_wm .wm [], dotQ_eq_wsumBy]
  exact validateWm_verdict (hW := weightedSumHook_a17 (weightedSumHook_wm hU))
    (hv := verdict_of_eq_ok (wmVerdict_rule17 _ d8 h8))

/-- Method 21: like 00, but the sum is reduced to one digit by repeated cross sums. -/
theorem de21 (U : Unicode) (hU : U.WF) (d1 d2 d3 d4 d5 d6 d7 d8 d9 d10 : Nat)
    (h1 : d1 < 10) (h2 : d2 < 10) (h3 : d3 < 10) (h4 : d4 < 10) (h5 : d5 < 10) (h6 : d6 < 10)
    (h7 : d7 < 10) (h8 : d8 < 10) (h9 : d9 < 10) (h10 : d10 < 10) (sc : Scratch) :
    deVerdict (Gen.de_DE_21.validateM U [acct d1 d2 d3 d4 d5 d6 d7 d8 d9 d10] sc).2 = true ∧
    deAccepts (Gen.de_DE_21.validateM U [acct d1 d2 d3 d4 d5 d6 d7 d8 d9 d10] sc).2 =
      rule21 (dotQ [2, 1, 2, 1, 2, 1, 2, 1, 2] [d9, d8, d7, d6, d5, d4, d3, d2, d1]) d10 := by
  have hlt : ∀ d ∈ [d9, d8, d7, d6, d5, d4, d3, d2, d1], d < 10 := fun d h =>
    acct_digits_lt h1 h2 h3 h4 h5 h6 h7 h8 h9 h10 d (slice_mem (a := 0) (b := 9) (List.mem_reverse.mp h))
  have hb : wsumBy (fun d w => digitSum (d * w)) [2, 1, 2, 1, 2, 1, 2, 1, 2]
      [d9, d8, d7, d6, d5, d4, d3, d2, d1] < 82 :=
    -- every summand is the cross sum of a product `d * w ≤ 9 * 2`
    have hw2 : ∀ w ∈ [2, 1, 2, 1, 2, 1, 2, 1, 2], w ≤ 2 := by decide
    Nat.lt_succ_of_le (wsumBy_le (B := 9) fun d hd w hw => digitSum_le9 _
      (Nat.lt_succ_of_le (Nat.mul_le_mul (Nat.le_of_lt_succ (hlt d hd)) (hw2 w hw))))
  rw [acct_eq_digs, validateM_wm .wm [], dotQ_eq_wsumBy]
  exact validateWm_verdict (hW := weightedSumHook_wm hU (hx := hlt)) (hr := remainderHook_a21 ..)
    (hv := verdict_of_eq_ok (wmVerdict_rule21 _ d10 h10 hb))

/-- Method 88: like 06 over positions 4–9 (weights 2…7); if `d3 = 9` over positions 3–9 (2…8). -/
theorem de88 (U : Unicode) (hU : U.WF) (d1 d2 d3 d4 d5 d6 d7 d8 d9 d10 : Nat)
    (h1 : d1 < 10) (h2 : d2 < 10) (h3 : d3 < 10) (h4 : d4 < 10) (h5 : d5 < 10) (h6 : d6 < 10)
    (h7 : d7 < 10) (h8 : d8 < 10) (h9 : d9 < 10) (h10 : d10 < 10) (sc : Scratch) :
    deVerdict (Gen.de_DE_88.validateM U [acct d1 d2 d3 d4 d5 d6 d7 d8 d9 d10] sc).2 = true ∧
    deAccepts (Gen.de_DE_88.validateM U [acct d1 d2 d3 d4 d5 d6 d7 d8 d9 d10] sc).2 =
      (if d3 = 9 then rule06 (dot [2, 3, 4, 5, 6, 7, 8] [d9, d8, d7, d6, d5, d4, d3]) d10
       else rule06 (dot [2, 3, 4, 5, 6, 7] [d9, d8, d7, d6, d5, d4]) d10) := by
  have hp : getPositions Gen.de_DE_88 Gen.de_DE_88.getPositions
      (digs [d1, d2, d3, d4, d5, d6, d7, d8, d9, d10]) =
      .ok (if d3 = 9 then ⟨3, 9, 10⟩ else Gen.de_DE_88.positions) := by
    have e : 48 + d3 = 57 ↔ d3 = 9 := by omega
    simp only [show Gen.de_DE_88.getPositions = [.a88, .wm] from rfl, getPositions, digs,
      List.map_cons, List.getElem?_cons_succ, List.getElem?_cons_zero, e]
    split <;> rfl
  rw [acct_eq_digs, validateM_wm .wm [], dot_eq_wsumBy, dot_eq_wsumBy]
  by_cases h39 : d3 = 9
  · rw [if_pos h39] at hp ⊢
    exact validateWm_verdict (hp := hp) (hg := wmGetDigits_digs (hp := hp)) (hW := weightedSumHook_wm hU)
      (hv := verdict_of_eq_ok (wmVerdict_rule06 _ d10 h10))
  · rw [if_neg h39] at hp ⊢
    exact validateWm_verdict (hp := hp) (hg := wmGetDigits_digs (hp := hp)) (hW := weightedSumHook_wm hU)
      (hv := verdict_of_eq_ok (wmVerdict_rule06 _ d10 h10))

/-- Method 61: like 00 over positions 1–7 (check digit at 8); if `d9 = 8`, positions 9 and 10
    are included. -/
theorem de61 (U : Unicode) (hU : U.WF) (d1 d2 d3 d4 d5 d6 d7 d8 d9 d10 : Nat)
    (h1 : d1 < 10) (h2 : d2 < 10) (h3 : d3 < 10) (h4 : d4 < 10) (h5 : d5 < 10) (h6 : d6 < 10)
    (h7 : d7 < 10) (h8 : d8 < 10) (h9 : d9 < 10) (h10 : d10 < 10) (sc : Scratch) :
    deVerdict (Gen.de_DE_61.validateM U [acct d1 d2 d3 d4 d5 d6 d7 d8 d9 d10] sc).2 = true ∧
    deAccepts (Gen.de_DE_61.validateM U [acct d1 d2 d3 d4 d5 d6 d7 d8 d9 d10] sc).2 =
      (if d9 = 8 then rule10 (dotQ [2, 1, 2, 1, 2, 1, 2, 1, 2] [d10, d9, d7, d6, d5, d4, d3, d2, d1]) d8
       else rule10 (dotQ [2, 1, 2, 1, 2, 1, 2] [d7, d6, d5, d4, d3, d2, d1]) d8) := by
  have hg := getDigits_a61 (U := U) (P := Gen.de_DE_61) (rest := [.wm])
    (ds := [d1, d2, d3, d4, d5, d6, d7, d8, d9, d10]) (xs := [d7, d6, d5, d4, d3, d2, d1])
    wmGetDigits_digs
  rw [acct_eq_digs, validateM_wm .wm [], dotQ_eq_wsumBy, dotQ_eq_wsumBy]
  by_cases h98 : d9 = 8
  · rw [if_pos (show [d1, d2, d3, d4, d5, d6, d7, d8, d9, d10].getD 8 0 = 8 from h98)] at hg
    rw [if_pos h98]
    exact validateWm_verdict (hg := hg)
      (hW := weightedSumHook_wm hU (xs := [d10, d9, d7, d6, d5, d4, d3, d2, d1]))
      (hv := verdict_of_eq_ok (wmVerdict_rule10 _ d8 h8))
  · rw [if_neg (show ¬ [d1, d2, d3, d4, d5, d6, d7, d8, d9, d10].getD 8 0 = 8 from h98)] at hg
    rw [if_neg h98]
    exact validateWm_verdict (hg := hg) (hW := weightedSumHook_wm hU)
      (hv := verdict_of_eq_ok (wmVerdict_rule10 _ d8 h8))

/-- Method 26: like 06 over positions 1–7 (weights 2…7, 2), check digit at 8; numbers starting
    with `00` are shifted left by two places first. -/
theorem de26 (U : Unicode) (hU : U.WF) (d1 d2 d3 d4 d5 d6 d7 d8 d9 d10 : Nat)
    (h1 : d1 < 10) (h2 : d2 < 10) (h3 : d3 < 10) (h4 : d4 < 10) (h5 : d5 < 10) (h6 : d6 < 10)
    (h7 : d7 < 10) (h8 : d8 < 10) (h9 : d9 < 10) (h10 : d10 < 10) (sc : Scratch) :
    deVerdict (Gen.de_DE_26.validateM U [acct d1 d2 d3 d4 d5 d6 d7 d8 d9 d10] sc).2 = true ∧
    deAccepts (Gen.de_DE_26.validateM U [acct d1 d2 d3 d4 d5 d6 d7 d8 d9 d10] sc).2 =
      (if d1 = 0 ∧ d2 = 0 then rule06 (dot [2, 3, 4, 5, 6, 7, 2] [d9, d8, d7, d6, d5, d4, d3]) d10
       else rule06 (dot [2, 3, 4, 5, 6, 7, 2] [d7, d6, d5, d4, d3, d2, d1]) d8) := by
  have ha := adjustInput_a26 [.wm] d1 d2 [d3, d4, d5, d6, d7, d8, d9, d10]
  rw [acct_eq_digs, validateM_wm .wm [], dot_eq_wsumBy, dot_eq_wsumBy]
  by_cases hz : d1 = 0 ∧ d2 = 0
  · rw [if_pos hz] at ha ⊢
    exact validateWm_verdict (ha := ha) (hW := weightedSumHook_wm hU)
      (hv := verdict_of_eq_ok (wmVerdict_rule06 _ d10 h10))
  · rw [if_neg hz] at ha ⊢
    exact validateWm_verdict (ha := ha) (hW := weightedSumHook_wm hU)
      (hv := verdict_of_eq_ok (wmVerdict_rule06 _ d8 h8))

/-- Method 76: `d1 ∈ {0, 4, 6, 7, 8, 9}`; positions 2–7 right to left with weights 2…7; the
    remainder modulo 11 is the check digit (position 8); remainder 10 cannot be used. -/
theorem de76 (U : Unicode) (hU : U.WF) (d1 d2 d3 d4 d5 d6 d7 d8 d9 d10 : Nat)
    (h1 : d1 < 10) (h2 : d2 < 10) (h3 : d3 < 10) (h4 : d4 < 10) (h5 : d5 < 10) (h6 : d6 < 10)
    (h7 : d7 < 10) (h8 : d8 < 10) (h9 : d9 < 10) (h10 : d10 < 10) (sc : Scratch) :
    deVerdict (Gen.de_DE_76.validateM U [acct d1 d2 d3 d4 d5 d6 d7 d8 d9 d10] sc).2 = true ∧
    deAccepts (Gen.de_DE_76.validateM U [acct d1 d2 d3 d4 d5 d6 d7 d8 d9 d10] sc).2 =
      (decide (d1 = 0 ∨ d1 = 4 ∨ d1 = 6 ∨ d1 = 7 ∨ d1 = 8 ∨ d1 = 9) &&
       rule76 (dot [2, 3, 4, 5, 6, 7] [d7, d6, d5, d4, d3, d2]) d8) := by
  have hi : pyIndex (digs [d1, d2, d3, d4, d5, d6, d7, d8, d9, d10]) 0 = .ok (48 + d1) :=
    pyIndex_digs (k := 0) (by simp)
  rw [acct_eq_digs, dot_eq_wsumBy, validateM_wm .a76 [.wm], validate_a76 hU h1 hi]
  by_cases hA : d1 = 0 ∨ d1 = 4 ∨ d1 = 6 ∨ d1 = 7 ∨ d1 = 8 ∨ d1 = 9
  · -- the digits summed are `d7 … d2` without the zeros at the end, which contribute nothing
    rw [if_pos hA, decide_eq_true hA, Bool.true_and]
    exact validateWm_verdict (hg := getDigits_a76 wmGetDigits_digs)
      (hW := weightedSumHook_wm_rstrip hU (xs := [d7, d6, d5, d4, d3, d2]))
      (hv := wmVerdict_rule76 _ d8 h8)
  · rw [if_neg hA, decide_eq_false hA, Bool.false_and]; exact ⟨rfl, rfl⟩

/-- The four variant classes of method 91 (`Algorithm91.Variant1 … Variant4`), as regenerated. -/
def de91v (i : Nat) : DEParams := Gen.de_DE_91.variants.getD i default

theorem de91_variant1 (U : Unicode) (hU : U.WF) (d1 d2 d3 d4 d5 d6 d7 d8 d9 d10 : Nat)
    (h1 : d1 < 10) (h2 : d2 < 10) (h3 : d3 < 10) (h4 : d4 < 10) (h5 : d5 < 10) (h6 : d6 < 10)
    (h7 : d7 < 10) (h8 : d8 < 10) (h9 : d9 < 10) (h10 : d10 < 10) :
    freshValidate U (de91v 0) [acct d1 d2 d3 d4 d5 d6 d7 d8 d9 d10] =
      .ok (rule06 (dot [2, 3, 4, 5, 6, 7] [d6, d5, d4, d3, d2, d1]) d7) := by
  rw [acct_eq_digs, dot_eq_wsumBy]
  exact wm_rule06_ok (P := de91v 0) hU (acct_digits_lt h1 h2 h3 h4 h5 h6 h7 h8 h9 h10)

theorem de91_variant2 (U : Unicode) (hU : U.WF) (d1 d2 d3 d4 d5 d6 d7 d8 d9 d10 : Nat)
    (h1 : d1 < 10) (h2 : d2 < 10) (h3 : d3 < 10) (h4 : d4 < 10) (h5 : d5 < 10) (h6 : d6 < 10)
    (h7 : d7 < 10) (h8 : d8 < 10) (h9 : d9 < 10) (h10 : d10 < 10) :
    freshValidate U (de91v 1) [acct d1 d2 d3 d4 d5 d6 d7 d8 d9 d10] =
      .ok (rule06 (dot [7, 6, 5, 4, 3, 2] [d6, d5, d4, d3, d2, d1]) d7) := by
  rw [acct_eq_digs, dot_eq_wsumBy]
  exact wm_rule06_ok (P := de91v 1) hU (acct_digits_lt h1 h2 h3 h4 h5 h6 h7 h8 h9 h10)

theorem de91_variant3 (U : Unicode) (hU : U.WF) (d1 d2 d3 d4 d5 d6 d7 d8 d9 d10 : Nat)
    (h1 : d1 < 10) (h2 : d2 < 10) (h3 : d3 < 10) (h4 : d4 < 10) (h5 : d5 < 10) (h6 : d6 < 10)
    (h7 : d7 < 10) (h8 : d8 < 10) (h9 : d9 < 10) (h10 : d10 < 10) :
    freshValidate U (de91v 2) [acct d1 d2 d3 d4 d5 d6 d7 d8 d9 d10] =
      .ok (rule06 (dot [2, 3, 4, 0, 5, 6, 7, 8, 9, 10] [d10, d9, d8, d7, d6, d5, d4, d3, d2, d1]) d7) := by
  rw [acct_eq_digs, dot_eq_wsumBy]
  exact wm_rule06_ok (P := de91v 2) hU (acct_digits_lt h1 h2 h3 h4 h5 h6 h7 h8 h9 h10)

theorem de91_variant4 (U : Unicode) (hU : U.WF) (d1 d2 d3 d4 d5 d6 d7 d8 d9 d10 : Nat)
    (h1 : d1 < 10) (h2 : d2 < 10) (h3 : d3 < 10) (h4 : d4 < 10) (h5 : d5 < 10) (h6 : d6 < 10)
    (h7 : d7 < 10) (h8 : d8 < 10) (h9 : d9 < 10) (h10 : d10 < 10) :
    freshValidate U (de91v 3) [acct d1 d2 d3 d4 d5 d6 d7 d8 d9 d10] =
      .ok (rule06 (dot [2, 4, 8, 5, 10, 9] [d6, d5, d4, d3, d2, d1]) d7) := by
  rw [acct_eq_digs, dot_eq_wsumBy]
  exact wm_rule06_ok (P := de91v 3) hU (acct_digits_lt h1 h2 h3 h4 h5 h6 h7 h8 h9 h10)

/-- Method 91: four variants, each like 06 with the check digit at position 7; valid if any
    of them accepts. -/
theorem de91 (U : Unicode) (hU : U.WF) (d1 d2 d3 d4 d5 d6 d7 d8 d9 d10 : Nat)
    (h1 : d1 < 10) (h2 : d2 < 10) (h3 : d3 < 10) (h4 : d4 < 10) (h5 : d5 < 10) (h6 : d6 < 10)
    (h7 : d7 < 10) (h8 : d8 < 10) (h9 : d9 < 10) (h10 : d10 < 10) (sc : Scratch) :
    (Gen.de_DE_91.validateM U [acct d1 d2 d3 d4 d5 d6 d7 d8 d9 d10] sc).2 =
      .ok (rule06 (dot [2, 3, 4, 5, 6, 7] [d6, d5, d4, d3, d2, d1]) d7 ||
           rule06 (dot [7, 6, 5, 4, 3, 2] [d6, d5, d4, d3, d2, d1]) d7 ||
           rule06 (dot [2, 3, 4, 0, 5, 6, 7, 8, 9, 10] [d10, d9, d8, d7, d6, d5, d4, d3, d2, d1]) d7 ||
           rule06 (dot [2, 4, 8, 5, 10, 9] [d6, d5, d4, d3, d2, d1]) d7) := by
  have hv : Gen.de_DE_91.variants = [de91v 0, de91v 1, de91v 2, de91v 3] := rfl
  have hval : Gen.de_DE_91.validate = [.a91] := rfl
  simp only [DEParams.validateM, hval, DEM.lift, hv, variantsAny,
    de91_variant1 U hU d1 d2 d3 d4 d5 d6 d7 d8 d9 d10 h1 h2 h3 h4 h5 h6 h7 h8 h9 h10,
    de91_variant2 U hU d1 d2 d3 d4 d5 d6 d7 d8 d9 d10 h1 h2 h3 h4 h5 h6 h7 h8 h9 h10,
    de91_variant3 U hU d1 d2 d3 d4 d5 d6 d7 d8 d9 d10 h1 h2 h3 h4 h5 h6 h7 h8 h9 h10,
    de91_variant4 U hU d1 d2 d3 d4 d5 d6 d7 d8 d9 d10 h1 h2 h3 h4 h5 h6 h7 h8 h9 h10]
  cases rule06 (dot [2, 3, 4, 5, 6, 7] [d6, d5, d4, d3, d2, d1]) d7 <;>
  cases rule06 (dot [7, 6, 5, 4, 3, 2] [d6, d5, d4, d3, d2, d1]) d7 <;>
  cases rule06 (dot [2, 3, 4, 0, 5, 6, 7, 8, 9, 10] [d10, d9, d8, d7, d6, d5, d4, d3, d2, d1]) d7 <;>
  cases rule06 (dot [2, 4, 8, 5, 10, 9] [d6, d5, d4, d3, d2, d1]) d7 <;> rfl

/-- Method 24 (see `Spec.de24`). -/
theorem de24 (U : Unicode) (hU : U.WF) (d1 d2 d3 d4 d5 d6 d7 d8 d9 d10 : Nat)
    (h1 : d1 < 10) (h2 : d2 < 10) (h3 : d3 < 10) (h4 : d4 < 10) (h5 : d5 < 10) (h6 : d6 < 10)
    (h7 : d7 < 10) (h8 : d8 < 10) (h9 : d9 < 10) (h10 : d10 < 10) (sc : Scratch) :
    deVerdict (Gen.de_DE_24.validateM U [acct d1 d2 d3 d4 d5 d6 d7 d8 d9 d10] sc).2 = true ∧
    deAccepts (Gen.de_DE_24.validateM U [acct d1 d2 d3 d4 d5 d6 d7 d8 d9 d10] sc).2 =
      Spec.de24 [d1, d2, d3, d4, d5, d6, d7, d8, d9] d10 := by
  have hd := acct_digits_lt h1 h2 h3 h4 h5 h6 h7 h8 h9 h10
  -- the digits the method sums over: `Spec.de24`'s `body` without its leading zeros
  generalize hb : (if d1 = 3 ∨ d1 = 4 ∨ d1 = 5 ∨ d1 = 6 then [d2, d3, d4, d5, d6, d7, d8, d9]
    else if d1 = 9 then [d4, d5, d6, d7, d8, d9] else [d1, d2, d3, d4, d5, d6, d7, d8, d9]) = body
  have hbody : ∀ d ∈ body, d < 10 := by
    subst hb; intro d h
    split at h
    · exact hd d (slice_mem (a := 1) (b := 9) h)
    · split at h
      · exact hd d (slice_mem (a := 3) (b := 9) h)
      · exact hd d (slice_mem (a := 0) (b := 9) h)
  have hmem : ∀ d ∈ dropZeros body, d < 10 := fun d h => hbody d (dropZeros_mem h)
  have hlen : (dropZeros body).length ≤ 9 := by
    refine Nat.le_trans (dropZeros_length _) ?_
    subst hb; (repeat' split) <;> simp
  have hg : getDigits U Gen.de_DE_24 Gen.de_DE_24.getDigits
      (digs [d1, d2, d3, d4, d5, d6, d7, d8, d9, d10]) = .ok (digs (dropZeros body)) :=
    hb ▸ getDigits_a24 hU h1 (wmGetDigits_digs (P := Gen.de_DE_24))
  have hws : ∀ n, n ≤ 9 → cycleWeights Gen.de_DE_24.weights n = [1, 2, 3, 1, 2, 3, 1, 2, 3].take n := by
    decide
  have hspec : Spec.de24 [d1, d2, d3, d4, d5, d6, d7, d8, d9] d10 =
      (d10 == dot24 [1, 2, 3, 1, 2, 3, 1, 2, 3] (dropZeros body) % 10) := by
    subst hb; simp only [Spec.de24, List.drop_succ_cons, List.drop_zero]
  rw [acct_eq_digs, validateM_wm .wm [], hspec, dot24_eq_wsumBy, wsumBy_take]
  exact validateWm_verdict (hg := hg) (hW := weightedSumHook_wm hU (hx := hmem) (hw := hws _ hlen))
    (hv := verdict_of_eq_ok (wmVerdict_mod10 _ d10 h10))

/-- The check digit method 68 computes from a sum `S`, as text. -/
def cd68 (S : Nat) : Str := intToStr (if 10 - (S : Int) % 10 ≥ 10 then 0 else 10 - (S : Int) % 10)

theorem cd68_eq (S pz : Nat) (h : pz < 10) : (cd68 S == [48 + pz]) = rule10 S pz :=
  -- `wmVerdict [.wm] c r pz` is `.ok (intToStr (if c ≥ 10 then 0 else c) == [48 + pz])` (`reconcile_wm`)
  Res.ok.inj (wmVerdict_rule10 S pz h)

/-- `compute` of method 68: what `Algorithm68.get_digits` makes of the digits decides between six
    digits (ten-digit number with `d4 = 9`), `InvalidBBANChecksum` (ten digits otherwise) and all
    nine (`d1 = 0`; the stripped zeros contribute nothing). -/
theorem compute68 (U : Unicode) (hU : U.WF) (e1 e2 e3 e4 e5 e6 e7 e8 e9 e10 : Nat)
    (g1 : e1 < 10) (g2 : e2 < 10) (g3 : e3 < 10) (g4 : e4 < 10) (g5 : e5 < 10) (g6 : e6 < 10)
    (g7 : e7 < 10) (g8 : e8 < 10) (g9 : e9 < 10) (s : Scratch) :
    wmCompute U Gen.de_DE_68 [digs [e1, e2, e3, e4, e5, e6, e7, e8, e9, e10]] s =
      if e1 ≠ 0 then
        if e4 = 9 then
          (⟨(dotQ [2, 1, 2, 1, 2, 1] [e9, e8, e7, e6, e5, e4] : Nat) % 10⟩,
            .ok (cd68 (dotQ [2, 1, 2, 1, 2, 1] [e9, e8, e7, e6, e5, e4])))
        else (s, .err .invalidBBANChecksum)
      else
        (⟨(dotQ [2, 1, 2, 1, 2, 1, 2, 1, 2] [e9, e8, e7, e6, e5, e4, e3, e2, e1] : Nat) % 10⟩,
          .ok (cd68 (dotQ [2, 1, 2, 1, 2, 1, 2, 1, 2] [e9, e8, e7, e6, e5, e4, e3, e2, e1]))) := by
  rw [dotQ_eq_wsumBy, dotQ_eq_wsumBy]
  have hwm : getDigits U Gen.de_DE_68 [.wm] (digs [e1, e2, e3, e4, e5, e6, e7, e8, e9, e10]) =
      .ok (digs [e9, e8, e7, e6, e5, e4, e3, e2, e1]) :=
    wmGetDigits_digs (P := Gen.de_DE_68)
  have hlt : ∀ d ∈ [e9, e8, e7, e6, e5, e4, e3, e2, e1], d < 10 := by simp [*]
  by_cases h1 : e1 = 0
  · -- at most eight digits remain; the stripped zeros contribute nothing
    have hlen : (dropZeros [e9, e8, e7, e6, e5, e4, e3, e2, e1].reverse).reverse.length ≠ 9 := by
      subst h1
      have h8 : (dropZeros [e2, e3, e4, e5, e6, e7, e8, e9]).length ≤ 8 := dropZeros_length _
      have e : dropZeros [e9, e8, e7, e6, e5, e4, e3, e2, 0].reverse =
          dropZeros [e2, e3, e4, e5, e6, e7, e8, e9] := by simp [dropZeros]
      rw [List.length_reverse, e]; omega
    rw [if_neg (by simpa using h1)]
    exact wmCompute_eval (hg := (getDigits_a68 hwm rfl).trans (if_neg hlen))
      (hw := weightedSumHook_wm_rstrip hU (hx := hlt))
  · have hy : (dropZeros [e9, e8, e7, e6, e5, e4, e3, e2, e1].reverse).reverse =
        [e9, e8, e7, e6, e5, e4, e3, e2, e1] := by simp [dropZeros, h1]
    have hg := getDigits_a68 (U := U) (P := Gen.de_DE_68) hwm hy
    rw [if_pos (show [e9, e8, e7, e6, e5, e4, e3, e2, e1].length = 9 from rfl)] at hg
    rw [if_pos h1]
    by_cases h4 : e4 = 9
    · rw [if_pos (show [e9, e8, e7, e6, e5, e4, e3, e2, e1].getD 5 0 = 9 from h4)] at hg
      rw [if_pos h4]
      exact wmCompute_eval (hg := hg) (hw := weightedSumHook_wm hU (xs := [e9, e8, e7, e6, e5, e4]))
    · rw [if_neg (show ¬ [e9, e8, e7, e6, e5, e4, e3, e2, e1].getD 5 0 = 9 from h4)] at hg
      rw [if_neg h4]
      exact wmCompute_err rfl hg

/-- Method 68 (see `Spec.de68`): ten-digit numbers need a 9 as fourth digit and use six digits;
400000000…499999999 is not checked; nine-digit and shorter numbers are tried with all digits and
then with the digits d3, d4 left out. -/
theorem de68 (U : Unicode) (hU : U.WF) (d1 d2 d3 d4 d5 d6 d7 d8 d9 d10 : Nat)
    (h1 : d1 < 10) (h2 : d2 < 10) (h3 : d3 < 10) (h4 : d4 < 10) (h5 : d5 < 10) (h6 : d6 < 10)
    (h7 : d7 < 10) (h8 : d8 < 10) (h9 : d9 < 10) (h10 : d10 < 10) (sc : Scratch) :
    deVerdict (Gen.de_DE_68.validateM U [acct d1 d2 d3 d4 d5 d6 d7 d8 d9 d10] sc).2 = true ∧
    deAccepts (Gen.de_DE_68.validateM U [acct d1 d2 d3 d4 d5 d6 d7 d8 d9 d10] sc).2 =
      Spec.de68 d1 d2 d3 d4 d5 d6 d7 d8 d9 d10 := by
  have hd := acct_digits_lt h1 h2 h3 h4 h5 h6 h7 h8 h9 h10
  have hn := pyIntStr_digs hU _ 0 false hd (.inl (List.cons_ne_nil _ _))
  have hi : pyIndex (digs [d1, d2, d3, d4, d5, d6, d7, d8, d9, d10])
      ((Gen.de_DE_68.positions.checkDigit : Int) - 1) = .ok (48 + d10) :=
    pyIndex_digs (k := 9) (by simp)
  have z0 : (0 : Nat) < 10 := by decide
  -- the account of the second attempt
  have ha2 : (digs [d1, d2, d3, d4, d5, d6, d7, d8, d9, d10]).take 2 ++ [48, 48] ++
      (digs [d1, d2, d3, d4, d5, d6, d7, d8, d9, d10]).drop 4 =
      digs [d1, d2, 0, 0, d5, d6, d7, d8, d9, d10] := rfl
  have hc1 := compute68 U hU d1 d2 d3 d4 d5 d6 d7 d8 d9 d10 h1 h2 h3 h4 h5 h6 h7 h8 h9
  have hc2 := compute68 U hU d1 d2 0 0 d5 d6 d7 d8 d9 d10 h1 h2 z0 z0 h5 h6 h7 h8 h9
  rw [acct_eq_digs, validateM_wm .a68 [.wm], validate_a68 _ hn, ha2]
  simp only [Spec.de68]
  by_cases hz : d1 = 0
  · subst hz
    simp only [ne_eq, not_true_eq_false, ↓reduceIte] at hc1 hc2 ⊢
    by_cases h24 : d2 = 4
    · have hr : 400000000 ≤ num [0, d2, d3, d4, d5, d6, d7, d8, d9, d10] 0 ∧
          num [0, d2, d3, d4, d5, d6, d7, d8, d9, d10] 0 ≤ 499999999 := by
        simp only [num]; omega
      rw [if_pos hr, if_pos h24]; exact ⟨rfl, rfl⟩
    · have hr : ¬ (400000000 ≤ num [0, d2, d3, d4, d5, d6, d7, d8, d9, d10] 0 ∧
          num [0, d2, d3, d4, d5, d6, d7, d8, d9, d10] 0 ≤ 499999999) := by
        simp only [num]; omega
      rw [if_neg hr, if_neg h24, validateWm_eval [] rfl (hc1 sc) rfl, hi]
      simp only [Res.bind, cd68_eq _ _ h10, hc2]
      -- zero digits add nothing: the sums over nine digits are `Spec.de68`'s over eight and over six
      simp only [dotQ, Nat.zero_mul, digitSum_zero, Nat.add_zero, Nat.zero_add]
      -- both sides branch on the verdict of the first attempt
      cases rule10 _ d10 <;> simp only [Bool.false_or, Bool.true_or] <;> exact ⟨rfl, rfl⟩
  · have hr : ¬ (400000000 ≤ num [d1, d2, d3, d4, d5, d6, d7, d8, d9, d10] 0 ∧
        num [d1, d2, d3, d4, d5, d6, d7, d8, d9, d10] 0 ≤ 499999999) := by
      simp only [num]; omega
    rw [if_neg hr]
    simp only [ne_eq, hz, not_false_eq_true, ↓reduceIte, Nat.reduceEqDiff] at hc1 hc2 ⊢
    by_cases h49 : d4 = 9
    · subst h49
      simp only [↓reduceIte, decide_true, Bool.true_and] at hc1 ⊢
      rw [validateWm_eval [] rfl (hc1 sc) rfl, hi]
      simp only [Res.bind, cd68_eq _ _ h10, hc2]
      cases rule10 _ d10 <;> exact ⟨rfl, rfl⟩
    · simp only [h49, ↓reduceIte, decide_false, Bool.false_and] at hc1 ⊢
      rw [validateWm_eval [] rfl (hc1 sc) rfl]
      exact ⟨rfl, rfl⟩

end SV.Props.C07
