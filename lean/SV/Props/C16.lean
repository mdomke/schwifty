/-
  C16 — IBAN, BIC and BBAN are string values: equality, hashing, order and copies agree.

  PARTIAL: the comparison laws are proved for the model (in which `__eq__/__lt__/__hash__` are the
  compact strings' — tied to the code by the operator correspondence stream); the copy / deepcopy /
  pickle theorems are about the reconstruction protocol `cls.__new__(cls, *getnewargs)` + restored
  instance dict, with the arities and overrides read off the live classes (`SV.Gen.Classes`);
  that CPython's `copyreg` / `pickle` implement that protocol is trusted and exercised dynamically.
-/
import SV.Model.Obj
import SV.Proofs.Clean
import SV.Proofs.Str
import SV.Gen.Classes
namespace SV.Props.C16
open SV

/-- Equality is an equivalence relation and is the equality of the compact strings. -/
theorem eq_equivalence (a b c : Obj) :
    pyEq a a = true ∧ (pyEq a b = pyEq b a) ∧ (pyEq a b = true → pyEq b c = true → pyEq a c = true) := by
  refine ⟨by simp [pyEq], ?_, ?_⟩
  · exact Bool.beq_comm
  · simp only [pyEq, beq_iff_eq]; intro h1 h2; rw [h1, h2]

/-- Equal objects hash equally, so they can stand in for each other (and for their compact
    string) as dictionary keys. -/
theorem eq_hash (a b : Obj) (h : pyEq a b = true) : pyHashKey a = pyHashKey b := by
  simpa [pyEq, pyHashKey] using h

theorem eq_is_string_eq (U : Unicode) (k : Cls) (cc : Option Str) (s t : Str) :
    pyEq (Obj.make U k cc s) (Obj.make U .str none t) =
      ((Obj.make U k cc s).value == t) := rfl

/-- `<` is a strict total order on the compact strings (lexicographic by code point):
    irreflexive, transitive, total; `<=` is `<` or `==`. -/
theorem lt_strict_total_order (a b c : Obj) :
    pyLt a a = false ∧
    (pyLt a b = true → pyLt b c = true → pyLt a c = true) ∧
    (pyLt a b = true ∨ pyEq a b = true ∨ pyLt b a = true) ∧
    (pyLt a b = true → pyLt b a = false) ∧
    (pyLe a b = (pyLt a b || pyEq a b)) := by
  refine ⟨strLt_irrefl _, strLt_trans, ?_, strLt_asymm, rfl⟩
  simpa [pyEq, pyLt] using strLt_total a.value b.value

/-- Sorting by `<` is therefore consistent with equality: incomparable objects are equal. -/
theorem incomparable_eq (a b : Obj) (h1 : pyLt a b = false) (h2 : pyLt b a = false) :
    pyEq a b = true := by
  simp only [pyLt] at h1 h2
  simpa [pyEq, h1, h2] using strLt_total a.value b.value

/-- Instance obligation: on the live classes `__new__` takes exactly the arguments
    `__getnewargs__` supplies, no class overrides the copy / reduce protocol, and `__deepcopy__`
    is the (non-validating) `Base` method. -/
theorem live_class_facts :
    [Cls.iban, Cls.bic, Cls.bban].all (fun c =>
      Gen.classFacts.newArity c == Gen.classFacts.newArgsLen c &&
      !Gen.classFacts.customCopy c && Gen.classFacts.deepcopyIsBase c) = true := by decide

theorem Obj.make_cls (U : Unicode) (k : Cls) (cc : Option Str) (s : Str) : (Obj.make U k cc s).cls = k := by
  cases k <;> rfl

theorem Obj.clean_make_value {U : Unicode} (hU : U.WF) {k : Cls} (hk : k ≠ .str) (cc : Option Str) (s : Str) :
    clean U (Obj.make U k cc s).value = (Obj.make U k cc s).value := by
  cases k <;> simp [Obj.make, clean_idem hU] at hk ⊢

theorem reconstruct_ok {U : Unicode} {F : ClassFacts}
    (hF : ∀ c, c ≠ Cls.str → F.newArity c = F.newArgsLen c ∧ F.customCopy c = false ∧
      F.deepcopyIsBase c = true)
    {o : Obj} (ho : o.cls ≠ .str) (hv : clean U o.value = o.value) : reconstruct U F o = .ok o := by
  have := hF o.cls ho
  unfold reconstruct
  simp only [this.2.1, Bool.false_eq_true, ↓reduceIte, this.1, ne_eq, not_true_eq_false]
  obtain ⟨c, v, ctry⟩ := o
  cases c with
  | str => exact absurd rfl ho
  | iban | bic | bban => simp only at hv; simp [hv]

/-- Shallow copy, deep copy and pickling of ANY object (valid or built with validation off) yield
    an equal object of the same class with the same country — given class facts as above. -/
theorem copy_equal (U : Unicode) (hU : U.WF) (F : ClassFacts) (k : Cls) (cc : Option Str) (s : Str)
    (hk : k ≠ .str)
    (hF : ∀ c, c ≠ Cls.str → F.newArity c = F.newArgsLen c ∧ F.customCopy c = false ∧
      F.deepcopyIsBase c = true) :
    pyCopy U F (Obj.make U k cc s) = .ok (Obj.make U k cc s) ∧
    pyDeepCopy U F (Obj.make U k cc s) = .ok (Obj.make U k cc s) := by
  have hcls := Obj.make_cls U k cc s
  have hrec : reconstruct U F (Obj.make U k cc s) = .ok _ :=
    reconstruct_ok hF (by rw [hcls]; exact hk) (Obj.clean_make_value hU hk cc s)
  refine ⟨hrec, ?_⟩
  unfold pyDeepCopy
  have hdeep := (hF k hk).2.2
  by_cases hi : k = .iban
  · subst hi
    have hb : reconstruct U F ⟨.bban, IBAN.bban U (Obj.make U .iban cc s).value,
        some (IBAN.countryCode (Obj.make U .iban cc s).value)⟩ = .ok _ :=
      reconstruct_ok hF (by simp) (by simp only [IBAN.bban]; exact clean_idem hU _)
    simp only [hcls, ↓reduceIte, hb, Res.ok_bind, hdeep, Bool.not_true, Bool.false_and,
      Bool.false_eq_true]
    exact hrec
  · simp only [hcls, hi, ↓reduceIte, hdeep, Bool.not_true, Bool.false_and, Bool.false_eq_true]
    exact hrec

/-- What `live_class_facts` rules out: with `__new__` taking another number of arguments than
    `__getnewargs__` supplies (a `BBAN.__new__` of two arguments under the default protocol, which
    supplies one), copying is a `TypeError`. -/
theorem arity_mismatch_is_type_error (U : Unicode) (F : ClassFacts) (o : Obj)
    (hc : F.customCopy o.cls = false) (h : F.newArity o.cls ≠ F.newArgsLen o.cls) :
    pyCopy U F o = .crash .typeError := by
  simp [pyCopy, reconstruct, hc, h]

end SV.Props.C16
