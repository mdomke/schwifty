/-
  C08 (continued) — `IBAN.generate` end to end.

  `generate` is `from_components` followed by `from_bban`: totality and the success case follow from
  what `SV.Proofs.Generate` says of `from_components` (no foreign exception; a compact BBAN whose
  fields are the components handed over) and from `fromBban_ok`.  The hypothesis on the algorithm
  table — every `:default` entry is a national algorithm class — is decidable and discharged on the
  live table.  With `padding` and the `too_long_*` theorems of `C08.lean`: supplied characters are
  never dropped, truncated or changed.
-/
import SV.Proofs.Generate
import SV.Props.C06
import SV.Props.C01
namespace SV.Props.C08
open SV Spec

/-- The keyword arguments `IBAN.generate` passes to `from_components`. -/
def genArgs (bank account branch : Str) : List (Component × Str) :=
  [(.bankCode, bank), (.branchCode, branch), (.accountCode, account)]

theorem valuesGet_genArgs_other (bank account branch : Str) {k : Component} (h1 : k ≠ .bankCode)
    (h2 : k ≠ .branchCode) (h3 : k ≠ .accountCode) :
    valuesGet (genArgs bank account branch) k = [] := by
  cases k <;> first | rfl | contradiction

/-- **Totality of `IBAN.generate`**: an IBAN or a library error, never a foreign exception —
    for every country string and every three component strings. -/
theorem generate_total (X : Ctx) (hU : X.U.WF) (hT : X.T.WF) {cc : Str} (hA : defaultsNat X.A cc)
    (bank account branch : Str) : (IBAN.generate X cc bank account branch).isCrash = false :=
  Res.isCrash_bind (fromComponents_no_crash X hA _) fun _ =>
    Res.isCrash_bind (isoDefaultCompute_no_crash X.U _) fun _ => IBAN.new_no_crash hU hT _ false

theorem splitComps_plain (X : Ctx) (e : Country) (vs : List (Component × Str))
    (hs : splitsB X e vs = false) (k : Component) :
    splitComps X e vs k = zfill (clean X.U (valuesGet vs k)) (e.range k).length :=
  splitComps_of_not_split X e vs hs k

/-- When the combined-width split applies (branch field published, no branch code supplied, bank
    code of combined width), bank field followed by branch field spell the cleaned bank code. -/
theorem split_bank_branch (X : Ctx) (e : Country) (vs : List (Component × Str))
    (hs : splitsB X e vs = true) :
    splitComps X e vs .bankCode ++ splitComps X e vs .branchCode = clean X.U (valuesGet vs .bankCode) ∧
    (splitComps X e vs .bankCode).length = (e.range .bankCode).length ∧
    (splitComps X e vs .branchCode).length = (e.range .branchCode).length := by
  obtain ⟨hpos, -, hl⟩ := splitsB_iff.mp hs
  -- the padded bank code is longer than its field, so padding left it alone
  have hz : padComps X e vs .bankCode = clean X.U (valuesGet vs .bankCode) := by
    unfold padComps at hl ⊢
    rw [zfill_length] at hl
    exact zfill_of_le (by omega)
  have h1 : splitComps X e vs .bankCode = (padComps X e vs .bankCode).take (e.range .bankCode).length := by
    unfold splitComps; rw [hs]; simp [Comps.set]
  have h2 : splitComps X e vs .branchCode =
      slice (padComps X e vs .bankCode) (e.range .bankCode).length
        ((e.range .bankCode).length + (e.range .branchCode).length) := by
    unfold splitComps; rw [hs]; simp [Comps.set]
  refine ⟨?_, ?_, ?_⟩
  · have ht : (padComps X e vs .bankCode).take ((e.range .bankCode).length + (e.range .branchCode).length)
        = padComps X e vs .bankCode := List.take_of_length_le (by omega)
    rw [h1, h2, ← hz]
    unfold slice
    rw [ht, List.take_append_drop]
  · rw [h1, List.length_take]; omega
  · rw [h2, slice_length (by omega)]; omega

/-- **`IBAN.from_bban` on a compact BBAN, success case.** -/
theorem fromBban_ok (X : Ctx) (hU : X.U.WF) (hT : X.T.WF) {cc b i : Str} {e : Country}
    (hl : X.T.lookup cc = some e) (hbc : Compact X.U b)
    (h : IBAN.fromBban X cc b false false = .ok i) :
    b.length = e.bbanLength ∧ i.take 2 = cc ∧ i.drop 4 = b ∧ isoValid X.T i = true ∧
      IBAN.new X i false false = .ok i := by
  obtain ⟨a1, a2, rfl, ha1, ha2⟩ := hT.key_of_lookup hl
  obtain ⟨dd, hd, h⟩ := Res.bind_eq_ok h
  obtain ⟨v, hv, rfl⟩ := isoDefaultCompute_ok hd
  rw [fmt02_lt_100 v (by omega)] at h
  simp only [List.cons_append, List.nil_append] at h
  -- the assembled text is compact, so the constructor validates and returns it as it stands
  have hcomp : Compact X.U (a1 :: a2 :: (48 + v / 10) :: (48 + v % 10) :: b) :=
    compact_append (a := [a1, a2, 48 + v / 10, 48 + v % 10]) (compact_of_allAlnum hU (by
      simp only [allAlnum, List.all_cons, List.all_nil, isAsciiAlnumUpper, ha1, ha2, Bool.or_true,
        Bool.and_true, Bool.true_and, Bool.and_eq_true, Bool.or_eq_true, isAsciiDigit_iff]
      omega)) hbc
  obtain ⟨hval, rfl⟩ := IBAN.new_eq_ok.mp h
  rw [clean_of_compact hcomp] at hval h ⊢
  have hiso := (validate_ok_iff hU hT hcomp).mp hval
  have hlen := (isoValid_of_lookup hiso hl).1
  exact ⟨by simpa using hlen, rfl, rfl, hiso, h⟩

/-- **`IBAN.generate`, success case.**  The returned text is `cc ++ dd ++ b` with `dd` two ASCII
    digits and `b` the assembled BBAN of the country's length; it is accepted by the validating
    constructor; and each of bank, branch and account code — as `splitComps` describes them:
    cleaned and zero-padded, or the combined-width bank code cut in two — is found at the
    country's published position of `b`. -/
theorem generate_ok (X : Ctx) (hU : X.U.WF) (hT : X.T.WF) {cc : Str} (hA : defaultsNat X.A cc)
    {bank account branch i : Str} (h : IBAN.generate X cc bank account branch = .ok i) :
    ∃ e b, X.T.lookup cc = some e ∧ BBAN.fromComponents X cc (genArgs bank account branch) = .ok b ∧
      b.length = e.bbanLength ∧ i.take 2 = cc ∧ i.drop 4 = b ∧
      isoValid X.T i = true ∧ (IBAN.new X i false false) = .ok i ∧
      ∀ k r, publishedAt e k r → k ≠ .nationalChecksumDigits →
        slice b r.start r.stop = splitComps X e (genArgs bank account branch) k := by
  obtain ⟨b, hb, h⟩ := Res.bind_eq_ok h
  obtain ⟨e, _, hl, _⟩ := fromComponents_ok X hb
  obtain ⟨hblen, htake, hdrop, hiso, hnew⟩ := fromBban_ok X hU hT hl (fromComponents_compact X hU hb) h
  -- the four components `generate` does not pass are empty
  obtain ⟨cs, _, hpl, _⟩ := fromComponents_readback X hU hT hA hb hl hblen
    (fun k h1 h2 h3 _ => by
      show (clean X.U (valuesGet (genArgs bank account branch) k)).length ≤ _
      rw [valuesGet_genArgs_other bank account branch h1 h2 h3]; exact Nat.zero_le _)
  exact ⟨e, b, hl, hb, hblen, htake, hdrop, hiso, hnew,
    fun k r hp hk => range_of_published hp ▸ hpl k hk⟩

/-- A key of the form `…:default`. -/
def keyIsDefault (k : Str) : Bool := (colon :: strDefault).reverse.isPrefixOf k.reverse

/-- Decidable form of `defaultsNat` for every country string at once. -/
def defaultsNatB (A : AlgoTable) : Bool :=
  A.all (fun a => !keyIsDefault a.key || (match a.ref with | .nat _ => true | _ => false))

theorem defaultsNat_of_B {A : AlgoTable} (h : defaultsNatB A = true) (cc : Str) : defaultsNat A cc := by
  intro a ha
  obtain ⟨hm, hk⟩ := AlgoTable.get_mem ha
  simp only [defaultsNatB, List.all_eq_true, Bool.or_eq_true, Bool.not_eq_true'] at h
  rcases h a hm with h1 | h1
  · exfalso
    rw [hk] at h1
    have : keyIsDefault (defaultKey cc) = true := by
      unfold keyIsDefault defaultKey
      have e : (cc ++ [colon] ++ strDefault).reverse = (colon :: strDefault).reverse ++ cc.reverse := by
        simp [List.reverse_append]
      rw [e]
      exact List.isPrefixOf_iff_prefix.mpr (List.prefix_append _ _)
    rw [this] at h1; cases h1
  · cases hr : a.ref with
    | nat n => exact ⟨n, rfl⟩
    | de p => rw [hr] at h1; cases h1
    | unknown => rw [hr] at h1; cases h1

theorem live_defaults_nat : defaultsNatB Gen.algoTable = true := by decide +kernel

theorem live_generate_total (R : Registry) (cc bank account branch : Str) :
    (IBAN.generate (Gen.ctx R) cc bank account branch).isCrash = false :=
  generate_total (Gen.ctx R) C10.unicode_wf C01.table_wf (defaultsNat_of_B live_defaults_nat cc) _ _ _

theorem live_generate_ok (R : Registry) {cc bank account branch i : Str}
    (h : IBAN.generate (Gen.ctx R) cc bank account branch = .ok i) :
    ∃ e b, Gen.table.lookup cc = some e ∧
      BBAN.fromComponents (Gen.ctx R) cc (genArgs bank account branch) = .ok b ∧
      b.length = e.bbanLength ∧ i.take 2 = cc ∧ i.drop 4 = b ∧
      isoValid Gen.table i = true ∧ (IBAN.new (Gen.ctx R) i false false) = .ok i ∧
      ∀ k r, publishedAt e k r → k ≠ .nationalChecksumDigits →
        slice b r.start r.stop = splitComps (Gen.ctx R) e (genArgs bank account branch) k :=
  generate_ok (Gen.ctx R) C10.unicode_wf C01.table_wf (defaultsNat_of_B live_defaults_nat cc) h

/-! Non-vacuity: a concrete generation on the live tables (`IBAN.generate('DE', '37040044',
    '532013000')` = DE89370400440532013000), and a combined-width bank code for GB. -/
example : IBAN.generate (Gen.ctx []) (C06.bytes "DE") (C06.bytes "37040044") (C06.bytes "532013000") [] =
    .ok (C06.bytes "DE89370400440532013000") := by decide +kernel
example : IBAN.generate (Gen.ctx []) (C06.bytes "GB") (C06.bytes "NWBK601613") (C06.bytes "31926819") [] =
    .ok (C06.bytes "GB29NWBK60161331926819") := by decide +kernel
example : (match Gen.table.lookup (C06.bytes "GB") with
    | some e => splitsB (Gen.ctx []) e (genArgs (C06.bytes "NWBK601613") (C06.bytes "31926819") [])
    | none => false) = true := by decide +kernel

end SV.Props.C08
