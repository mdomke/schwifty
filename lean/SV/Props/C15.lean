/-
  C15 — Results depend only on arguments and bundled data, never on call history.

  PARTIAL.  Proved: the generic history theorem (if the outcome of a call does not depend on the
  hidden state, then after ANY finite history every call gives what it gives as the first call);
  its instance for the only hidden state the library keeps between calls — the scratch cell of the
  German algorithm objects — for method 25, whose `validate` reads the cell, from
  `C07.de25_independent_of_scratch` (outcome independent of the incoming scratch, for all ten digits;
  the other per-method theorems of C07 quantify over the incoming scratch in the same way).  In the model the registries are an immutable parameter;
  that the Python code does not write them after import, and that CPython / third-party modules keep
  no hidden state, is checked dynamically (effect probe, fork-based first-call references).
-/
import SV.Model.Effects
import SV.Props.C07
import SV.Gen.Effects
namespace SV.Props.C15
open SV Spec

theorem run_outcomes {W C O : Type} (S : Sys W C O) :
    ∀ (hist : List C) (w : W), (∀ c ∈ hist, ∀ w w', (S.step w c).2 = (S.step w' c).2) →
      (S.run w hist).2 = hist.map (fun c => (S.step w c).2)
  | [], _, _ => rfl
  | d :: t, w, h => by
    simp only [Sys.run, List.map_cons]
    rw [run_outcomes S t (S.step w d).1 fun c hc => h c (List.mem_cons_of_mem _ hc)]
    congr 1
    exact List.map_congr_left fun c hc => h c (List.mem_cons_of_mem _ hc) _ _

/-- Every outcome along a history equals the first-call outcome (not only the last one). -/
theorem every_outcome {W C O : Type} (S : Sys W C O)
    (h : ∀ w w' c, (S.step w c).2 = (S.step w' c).2) :
    ∀ (hist : List C) (w : W), (S.run w hist).2 = hist.map (fun c => (S.step w c).2) :=
  fun hist w => run_outcomes S hist w fun c _ w w' => h w w' c

/-- **History independence**: if outcomes do not depend on the hidden state, the outcome of a
    call after any history equals its outcome on the initial state. -/
theorem history_independent {W C O : Type} (S : Sys W C O)
    (h : ∀ w w' c, (S.step w c).2 = (S.step w' c).2) :
    ∀ (hist : List C) (w : W) (c : C),
      (S.run w (hist ++ [c])).2.getLast? = some (S.step w c).2 := by
  simp [every_outcome S h]

/-- The German algorithm objects as such a system: hidden state = the scratch cell; a call =
    ten digits; outcome = the verdict.  `de25_history` is the instance for method 25, whose
    `validate` reads the scratch cell after `compute` wrote it. -/
def deSys (U : Unicode) (P : DEParams) : Sys Scratch (List Nat) Bool where
  step sc ds :=
    let r := P.validateM U [ds.map (48 + ·)] sc
    (r.1, deAccepts r.2)

theorem de25_history (U : Unicode) (hU : U.WF) (hist : List (List Nat))
    (hd : ∀ ds ∈ hist, ds.length = 10 ∧ ∀ d ∈ ds, d < 10) (w w' : Scratch) :
    ((deSys U Gen.de_DE_25).run w hist).2 = ((deSys U Gen.de_DE_25).run w' hist).2 := by
  have H : ∀ ds ∈ hist, ∀ w w', ((deSys U Gen.de_DE_25).step w ds).2 =
      ((deSys U Gen.de_DE_25).step w' ds).2 := by
    intro ds hds w w'
    have ⟨hl, hdig⟩ := hd ds hds
    exact congrArg (fun r => deAccepts r.2) (C07.de25_independent_of_scratch U hU hl hdig w w')
  rw [run_outcomes _ hist w H, run_outcomes _ hist w' H]
  exact List.map_congr_left fun ds hds => H ds hds w w'

/-- Instance obligation (effect probe on the live tree): a battery of library calls run in one
    thread changes nothing another thread can see — neither `registry._registry` (objects, contents,
    order of index buckets) nor the algorithm singletons. -/
theorem live_no_shared_writes : Gen.sharedWritesAfterImport = [] := by decide

/-- …and no module-level or class-level container, `functools` cache, mutable default argument,
    closure cell or function attribute of the schwifty modules: nothing a later call could read. -/
theorem live_no_module_state_writes : Gen.moduleStateWrites = [] := by decide

/-- The only state the (per-thread) algorithm objects carry from one call to the next is the scratch
    the model threads through the engine (`remainder`) and the write-only `weighted_sum`: the
    history theorem above is about all of it. -/
theorem live_scratch_attrs :
    Gen.threadScratchAttrs.all (fun a => a == "remainder" || a == "weighted_sum") = true := by decide

end SV.Props.C15
