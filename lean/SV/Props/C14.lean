/-
  C14 — Concurrent use gives every caller the answer it would get alone.

  PARTIAL.  Proved: non-interference for ANY number of threads and ANY schedule (unbounded length) in
  the model where every thread works on its own state and only reads the shared environment; and that
  a design with one scratch cell shared by all threads does NOT have the property (a concrete
  three-step schedule).  Tie to the code: the effect probe regenerated on every run shows that
  attributes of the algorithm singletons are per-thread and that calls write nothing shared after
  import (`live_*` obligations).  Real preemption inside CPython, the free-threaded
  build and third-party modules are outside the model; the line-level scheduler `tools/sched.py`
  searches the real code for a schedule whose result differs from running alone.
-/
import SV.Model.Effects
import SV.Gen.Effects
namespace SV.Props.C14
open SV

theorem stepThread_length {E L : Type} (step : E → L → L) (env : E) (locals : List L) (i : Nat) :
    (stepThread step env locals i).length = locals.length := by
  unfold stepThread; split <;> simp

theorem stepThread_get {E L : Type} (step : E → L → L) (env : E) (locals : List L) (i j : Nat) :
    (stepThread step env locals i)[j]? =
      if i = j then locals[j]?.map (step env) else locals[j]? := by
  unfold stepThread
  split <;> rename_i h
  · have hi := (List.getElem?_eq_some_iff.mp h).1
    rw [List.getElem?_set]; split <;> simp_all
  · split
    · subst_vars; rw [h]; rfl
    · rfl

theorem iter_succ' {α : Type} (f : α → α) (n : Nat) (a : α) : iter f (n + 1) a = f (iter f n a) := by
  induction n generalizing a with
  | zero => rfl
  | succ n ih => exact ih (f a)

theorem iter_map_comm {α : Type} (f : α → α) (n : Nat) (a : Option α) :
    (a.map (iter f n)).map f = (a.map f).map (iter f n) := by
  cases a <;> simp [← iter_succ', iter]

/-- **Non-interference**: under every schedule, each thread ends in the state it reaches by making
    the same number of steps alone. -/
theorem noninterference {E L : Type} (step : E → L → L) (env : E) :
    ∀ (sched : List Nat) (locals : List L) (j : Nat),
      (runSchedule step env locals sched)[j]? = locals[j]?.map (iter (step env) (sched.count j))
  | [], locals, j => by simp [runSchedule, iter]
  | i :: t, locals, j => by
    rw [runSchedule, noninterference step env t, stepThread_get, List.count_cons]
    by_cases h : i = j
    · subst h; cases locals[i]? <;> simp [iter]
    · simp [h]

/-- The number of steps a thread needs does not matter either: once a thread has made all its
    steps alone, its result is in its state, and the schedule gave it exactly those steps. -/
theorem result_as_alone {E L : Type} (step : E → L → L) (env : E) (sched : List Nat) (locals : List L)
    (j : Nat) (l : L) (h : locals[j]? = some l) :
    (runSchedule step env locals sched)[j]? = some (iter (step env) (sched.count j) l) := by
  rw [noninterference, h]; rfl

/-- With ONE cell shared by the threads the property fails: thread 0 writes 1 and reads, thread 1
    writes 2; under the schedule 0,1,0 thread 0 reads 2 although alone it reads 1. -/
theorem shared_cell_interferes :
    let run := fun (sch : List Nat) => sch.foldl (sharedCellStep 1 2) (0, 0, none, 0)
    (run [0, 0]).2.2.1 = some 1 ∧ (run [0, 1, 0]).2.2.1 = some 2 := by decide

/-- Instance obligations (effect probe on the live tree, regenerated on every run): no attribute of
    an algorithm singleton written by one thread is visible to another, and a battery of calls
    writes nothing shared after import. -/
theorem live_scratch_is_thread_local : Gen.sharedScratch = [] := by decide
theorem live_no_shared_writes : Gen.sharedWritesAfterImport = [] := by decide

/-- …nor does it change any module-level or class-level container, `functools` cache, mutable default
    argument, closure cell or function attribute of the schwifty modules (state every thread shares). -/
theorem live_no_module_state_writes : Gen.moduleStateWrites = [] := by decide

end SV.Props.C14
