/-
  C10 — Whitespace and letter case never matter; formatting round-trips.

  Every entry point of IBAN / BIC / BBAN sees its text argument only through `clean`
  (`Base.__new__`), so the theorems are about `clean`, for every Unicode table satisfying the
  decidable facts `Unicode.WF`, which are re-checked by the kernel on the tables regenerated
  from the running interpreter (`unicode_wf`).
-/
import SV.Proofs.Format
import SV.Gen.Ctx
namespace SV.Props.C10
open SV

/-- Instance obligation: the interpreter's tables satisfy the facts the theorems assume. -/
theorem unicode_wf : Gen.unicode.WF :=
  Unicode.wf_of_wfb (km := Gen.upperKeysMask) (sm := Gen.spacesMask) (by decide +kernel)

/-- Instance obligation: the pattern `clean` removes is `\s+` (with default flags), i.e. runs of
    exactly the `\s` code points of the Unicode table — nothing more, nothing less.  When `clean` is not
    written with that pattern, the translator reads its behaviour on every code point instead, and the
    obligation is that it removes exactly the whitespace code points and upper-cases every other one
    (recorded behaviour, i.e. correspondence made part of the build; texts of several characters are
    covered by the correspondence streams). -/
theorem clean_pattern_is_ws :
    Gen.cleanPattern = [92, 115, 43] ∨
      (Gen.cleanPattern = [] ∧ Gen.cleanRemovedMask = Gen.spacesMask ∧ Gen.cleanOtherMask = 0) := by
  decide +kernel

/-- Instance obligation: the alphabet of `numerify` is `0-9A-Z`. -/
theorem alphabet_is_alnum :
    Gen.alphabet = (List.range 10).map (· + 48) ++ (List.range 26).map (· + 65) := by decide +kernel

/-- Whitespace anywhere: inserting any `\s` code point at any place leaves the compact form
    unchanged. -/
theorem clean_ws (U : Unicode) (w : Nat) (hw : U.isSpace w = true) (xs ys : Str) :
    clean U (xs ++ w :: ys) = clean U (xs ++ ys) := by
  rw [clean_append, clean_append, clean_cons_space hw]

/-- More generally: two texts that agree after deleting all whitespace have the same compact
    form (any number of insertions and deletions, anywhere, of any `\s` code points). -/
theorem clean_ws_general (U : Unicode) (s t : Str)
    (h : s.filter (fun c => !U.isSpace c) = t.filter (fun c => !U.isSpace c)) :
    clean U s = clean U t := by
  simp [clean, h]

/-- The case of ASCII letters: flipping the case of any subset of the ASCII letters leaves the
    compact form unchanged. -/
theorem clean_case (U : Unicode) (hU : U.WF) (s t : Str) (h : CaseVariant s t) :
    clean U s = clean U t := by
  -- characters that agree on `isSpace` and `upper` may be exchanged at the head
  have cons : ∀ {a b : Nat} {s t : Str}, U.isSpace b = U.isSpace a ∧ U.upper b = U.upper a →
      clean U s = clean U t → clean U (a :: s) = clean U (b :: t) := by
    intro a b s t ⟨h1, h2⟩ h3
    cases ha : U.isSpace a with
    | true => rw [clean_cons_space ha, clean_cons_space (h1.trans ha), h3]
    | false => rw [clean_cons_nonspace ha, clean_cons_nonspace (h1.trans ha), h2, h3]
  induction h with
  | nil => rfl
  | same c _ ih => exact cons ⟨rfl, rfl⟩ ih
  | flip c _ ih => exact cons (flipCase_alike hU c) ih

/-- Hence all such variants are accepted or rejected alike and yield equal objects, for every
    constructor and flag combination (the result *is* a function of the compact form). -/
theorem iban_variants_alike (X : Ctx) (s t : Str) (ai vb : Bool)
    (h : clean X.U s = clean X.U t) : IBAN.new X s ai vb = IBAN.new X t ai vb := by
  unfold IBAN.new; rw [h]

theorem bic_variants_alike (X : BicCtx) (s t : Str) (ai strict : Bool)
    (h : clean X.U s = clean X.U t) : BIC.new X s ai strict = BIC.new X t ai strict := by
  unfold BIC.new; rw [h]

/-- The compact form contains no whitespace and no (ASCII) lower-case letter. -/
theorem compact_no_ws_no_lower (U : Unicode) (hU : U.WF) (s : Str) :
    ∀ x ∈ clean U s, U.isSpace x = false ∧ isAsciiLower x = false :=
  fun x hx => ⟨(compact_clean hU s x hx).1, (compact_clean hU s x hx).2.1⟩

theorem clean_idempotent (U : Unicode) (hU : U.WF) (s : Str) : clean U (clean U s) = clean U s :=
  clean_idem hU s

/-- The formatted IBAN is the compact form cut into groups separated by single spaces:
    the groups concatenate to the compact form, every group has 1 … 4 characters. -/
theorem iban_formatted_groups (c : Str) :
    IBAN.formatted c = intercalateSp (chunks4 c.length c) ∧
    (chunks4 c.length c).flatten = c ∧
    ∀ g ∈ chunks4 c.length c, 1 ≤ g.length ∧ g.length ≤ 4 :=
  ⟨rfl, chunks4_flatten _ _ (Nat.le_refl _), chunks4_shape _ _⟩

/-- All groups but the last have exactly four characters. -/
theorem iban_formatted_full_groups : ∀ (n : Nat) (c : Str), c.length ≤ n →
    ∀ i, i + 1 < (chunks4 n c).length → ((chunks4 n c)[i]?.map List.length) = some 4
  | 0, c, _, i, hi => by simp [chunks4] at hi
  | n + 1, c, h, i, hi => by
    unfold chunks4 at hi ⊢
    by_cases hc : c = []
    · simp [hc] at hi
    · simp only [hc, ↓reduceIte] at hi ⊢
      have hpos : 0 < c.length := List.length_pos_iff.mpr hc
      cases i with
      | zero =>
        -- a second group exists, so more than four characters remain
        have hd : c.drop 4 ≠ [] := fun e => by rw [e] at hi; cases n <;> simp [chunks4] at hi
        have := List.length_pos_iff.mpr hd
        simp at this ⊢; omega
      | succ i =>
        simp only [List.length_cons, List.getElem?_cons_succ] at hi ⊢
        exact iban_formatted_full_groups n (c.drop 4) (by simp; omega) i (by omega)

/-- Parsing the formatted form of an IBAN yields the same object as parsing the compact form. -/
theorem iban_formatted_roundtrip (X : Ctx) (hU : X.U.WF) (s : Str) (ai vb : Bool) :
    IBAN.new X (IBAN.formatted (clean X.U s)) ai vb = IBAN.new X (clean X.U s) ai vb :=
  iban_variants_alike X _ _ ai vb (clean_iban_formatted hU _)

/-- The formatted BIC is its parts separated by single spaces (8 characters: 4-2-2,
    11 characters: 4-2-2-3). -/
theorem bic_formatted_parts (c : Str) :
    (c.length = 8 → BIC.formatted c = slice c 0 4 ++ [32] ++ slice c 4 6 ++ [32] ++ slice c 6 8) ∧
    (c.length = 11 → BIC.formatted c =
      slice c 0 4 ++ [32] ++ slice c 4 6 ++ [32] ++ slice c 6 8 ++ [32] ++ slice c 8 11) :=
  ⟨fun h => by
    obtain ⟨h1, h2, h3, h4, _⟩ := bic_fields (.inl h)
    simp [BIC.formatted, h1, h2, h3, h4, List.drop_eq_nil_of_le (Nat.le_of_eq h)],
   fun h => by
    obtain ⟨h1, h2, h3, h4, _⟩ := bic_fields (.inr h)
    have e : c.drop 8 = slice c 8 11 := (slice_to_end (Nat.le_of_eq h)).symm
    have hne : c.drop 8 ≠ [] := fun hn => by have := congrArg List.length hn; simp [h] at this
    simp [BIC.formatted, h1, h2, h3, h4, hne, ← e]⟩

/-- Parsing the formatted form of a BIC yields the same object as parsing the compact form. -/
theorem bic_formatted_roundtrip (X : BicCtx) (hU : X.U.WF) (s : Str) (ai strict : Bool)
    (hlen : (clean X.U s).length = 8 ∨ (clean X.U s).length = 11) :
    BIC.new X (BIC.formatted (clean X.U s)) ai strict = BIC.new X (clean X.U s) ai strict :=
  bic_variants_alike X _ _ ai strict (clean_bic_formatted hU hlen)

/-! Non-vacuity: the hypotheses are met by the live tables and by concrete inputs. -/

-- tab, newline, no-break space and em space are whitespace of the live tables
example : Gen.unicode.isSpace 9 = true ∧ Gen.unicode.isSpace 10 = true ∧
    Gen.unicode.isSpace 160 = true ∧ Gen.unicode.isSpace 0x2003 = true := by decide +kernel

example : CaseVariant [100, 101, 56, 57] [68, 101, 56, 57] :=
  .flip 100 (.same 101 (.same 56 (.same 57 .nil)))

example : clean Gen.unicode [100, 9, 101, 160, 56, 57] = [68, 69, 56, 57] := by decide +kernel

example : (clean Gen.unicode [71, 69, 78, 79, 68, 69, 77, 49, 71, 76, 83]).length = 11 := by
  decide +kernel

end SV.Props.C10
