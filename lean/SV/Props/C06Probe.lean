/-
  C06 — tie between the model of the national algorithm classes and the live objects: the
  recorded outcomes of `compute` / `validate` of every registered national algorithm on a fixed,
  systematic input set (`tools/gen.py: probe_inputs` — unit vectors over every position and every
  character of its class, seeded random inputs with computed and with random check values,
  ill-formed inputs) are reproduced by the model.  Kernel-checked correspondence, regenerated on
  every run; NOT a theorem about all inputs (those are in `C06.lean` and `C06Rules.lean`).  A
  changed weight, table entry, modulus or special case in a national algorithm class changes a
  recorded outcome, and this obligation fails.
-/
import SV.Gen.ProbeNatAll
namespace SV.Props.C06

theorem live_probes_reproduced :
    Gen.probesNat.all (fun c => c.all (probeOk Gen.unicode Gen.algoTable)) = true := Gen.probesNat_ok

end SV.Props.C06
