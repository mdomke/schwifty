/-
  C13 (continued) — pinned components are read back, and a registry-based draw belongs to a listed
  bank.  The proofs follow the successful attempt of the retry loop into `from_components` and use
  the end-to-end placement theorem of C08.
-/
import SV.Props.C13
import SV.Props.C08EndToEnd
import SV.Gen.Ctx
namespace SV.Props.C13
open SV Spec

/-- `components[key]` before the bank/branch split of `random`. -/
def rcBase (e : Country) (bank : Option BankEntry) (pinned : List (Component × Str)) (bban : Str)
    (k : Component) : Str :=
  match pinned.lookup k with
  | some v => v
  | none =>
    match bankGet bank k with
    | some v => if v != [] then v else
        (match e.defaults.lookup k with | some d => d | none => (e.range k).cut bban)
    | none => (match e.defaults.lookup k with | some d => d | none => (e.range k).cut bban)

def rcSplit (e : Country) (bank : Option BankEntry) (pinned : List (Component × Str)) (bban : Str) : Bool :=
  (pinned.lookup .branchCode).isNone &&
    decide ((rcBase e bank pinned bban .bankCode).length ≥
      (e.range .bankCode).length + (e.range .branchCode).length)

/-- The value `random` hands to `from_components` for component `k`. -/
def rcValue (e : Country) (bank : Option BankEntry) (pinned : List (Component × Str)) (bban : Str)
    (k : Component) : Str :=
  let bankCode := rcBase e bank pinned bban .bankCode
  let bankLen := (e.range .bankCode).length
  let branchLen := (e.range .branchCode).length
  let split := rcSplit e bank pinned bban
  let c1 : Str :=
    if split && k == .branchCode then slice bankCode bankLen (bankLen + branchLen)
    else if split && k == .bankCode && bankCode.length == bankLen + branchLen then bankCode.take bankLen
    else rcBase e bank pinned bban k
  if (pinned.lookup k).isNone then c1.take (e.range k).length else c1

theorem valuesGet_random (e : Country) (bank : Option BankEntry) (pinned : List (Component × Str))
    (bban : Str) (k : Component) :
    valuesGet (randomComponents e bank pinned bban) k = rcValue e bank pinned bban k := by
  show ((Component.all.map fun k => (k, rcValue e bank pinned bban k)).lookup k).getD [] = _
  rw [lookup_map_self _ _ k k.mem_all]
  rfl

theorem rcValue_pinned {e : Country} {bank : Option BankEntry} {pinned : List (Component × Str)}
    (bban : Str) {k : Component} {v : Str} (hp : pinned.lookup k = some v)
    (hl : k = .bankCode → v.length ≤ (e.range .bankCode).length) :
    rcValue e bank pinned bban k = v := by
  unfold rcValue
  simp only [hp, Option.isNone_some, Bool.false_eq_true, ↓reduceIte]
  have hbase : rcBase e bank pinned bban k = v := by simp [rcBase, hp]
  by_cases hk2 : k = .branchCode
  · subst hk2
    simp [rcSplit, hp, hbase]
  · have hb2 : (k == Component.branchCode) = false := by simpa using hk2
    by_cases hk1 : k = .bankCode
    · subst hk1
      have := hl rfl
      simp only [hb2, Bool.and_false, Bool.false_eq_true, ↓reduceIte, hbase]
      split
      · rename_i hs
        simp only [Bool.and_eq_true, beq_iff_eq] at hs
        rw [List.take_of_length_le (by omega)]
      · rfl
    · have hb1 : (k == Component.bankCode) = false := by simpa using hk1
      simp [hb1, hb2, hbase]

theorem rcBase_bank (e : Country) {bk : BankEntry} {pinned : List (Component × Str)} (bban : Str)
    (hp : pinned.lookup .bankCode = none) (hne : bk.bankCode ≠ []) :
    rcBase e (some bk) pinned bban .bankCode = bk.bankCode := by
  have : (bk.bankCode != []) = true := by simpa using hne
  simp [rcBase, hp, bankGet, this]

theorem rcValue_bank_drawn (e : Country) {bk : BankEntry} {pinned : List (Component × Str)} (bban : Str)
    (hp : pinned.lookup .bankCode = none) (hne : bk.bankCode ≠ []) :
    rcValue e (some bk) pinned bban .bankCode = bk.bankCode.take (e.range .bankCode).length := by
  unfold rcValue
  simp only [rcBase_bank e bban hp hne, hp, Option.isNone_none, ↓reduceIte,
    show (Component.bankCode == Component.branchCode) = false by decide, Bool.and_false,
    Bool.false_eq_true]
  split
  · rw [List.take_take, Nat.min_self]
  · rfl

theorem rcValue_branch_drawn (e : Country) {bk : BankEntry} {pinned : List (Component × Str)} (bban : Str)
    (hp : pinned.lookup .bankCode = none) (hpr : pinned.lookup .branchCode = none)
    (hne : bk.bankCode ≠ [])
    (hlen : (e.range .bankCode).length + (e.range .branchCode).length ≤ bk.bankCode.length) :
    rcValue e (some bk) pinned bban .branchCode =
      slice bk.bankCode (e.range .bankCode).length
        ((e.range .bankCode).length + (e.range .branchCode).length) := by
  have hsplit : rcSplit e (some bk) pinned bban = true := by
    simp [rcSplit, hpr, rcBase_bank e bban hp hne, hlen]
  unfold rcValue
  simp only [rcBase_bank e bban hp hne, hpr, Option.isNone_none, ↓reduceIte, hsplit,
    beq_self_eq_true, Bool.and_self]
  exact List.take_of_length_le (by rw [slice_length hlen]; omega)

/-- The quantifier of the property, "pinned values that conform to their fields": compact texts
    no longer than the field. -/
def PinnedOk (U : Unicode) (e : Country) (pinned : List (Component × Str)) : Prop :=
  ∀ k v, pinned.lookup k = some v → Compact U v ∧ v.length ≤ (e.range k).length

/-- The country's `default_<component>` values are compact texts. -/
def DefaultsOk (U : Unicode) (e : Country) : Prop :=
  ∀ k d, e.defaults.lookup k = some d → Compact U d

theorem rcValue_other_fits {U : Unicode} (hU : U.WF) {e : Country} {bank : Option BankEntry}
    {pinned : List (Component × Str)} (hP : PinnedOk U e pinned) (hD : DefaultsOk U e) (x : Str)
    {k : Component} (h1 : k ≠ .bankCode) (h2 : k ≠ .branchCode) :
    (clean U (rcValue e bank pinned (pyUpper U x) k)).length ≤ (e.range k).length := by
  have hb1 : (k == Component.bankCode) = false := by simpa using h1
  have hb2 : (k == Component.branchCode) = false := by simpa using h2
  have hbank : bankGet bank k = none := by
    unfold bankGet; cases bank <;> cases k <;> simp_all
  unfold rcValue
  simp only [hb1, hb2, Bool.and_false, Bool.false_and, Bool.false_eq_true, ↓reduceIte]
  cases hp : pinned.lookup k with
  | some v =>
    obtain ⟨hc, hl⟩ := hP k v hp
    simp only [Option.isNone_some, Bool.false_eq_true, ↓reduceIte, rcBase, hp]
    rw [clean_of_compact hc]; exact hl
  | none =>
    simp only [Option.isNone_none, ↓reduceIte, rcBase, hp, hbank]
    have hfix : UpperFixed U (match e.defaults.lookup k with
        | some d => d | none => (e.range k).cut (pyUpper U x)) := by
      cases hd : e.defaults.lookup k with
      | some d => exact compact_upperFixed (hD k d hd)
      | none => exact upperFixed_sub (upperFixed_flatMap_upper hU x) (fun c hc => slice_mem hc)
    have := clean_length_le (upperFixed_sub hfix
      (fun c hc => List.mem_of_mem_take (i := (e.range k).length) hc))
    refine Nat.le_trans this ?_
    rw [List.length_take]; omega

theorem splitComps_pinned (X : Ctx) {e : Country} {bank : Option BankEntry}
    {pinned : List (Component × Str)} (hP : PinnedOk X.U e pinned) (bban : Str)
    {k : Component} {v : Str} (hp : pinned.lookup k = some v) (hne : k = .branchCode → v ≠ []) :
    splitComps X e (randomComponents e bank pinned bban) k = zfill v (e.range k).length := by
  obtain ⟨hc, hl⟩ := hP k v hp
  have hval := rcValue_pinned (bank := bank) bban hp fun hk => hk ▸ hl
  have hpad : padComps X e (randomComponents e bank pinned bban) k = zfill v (e.range k).length := by
    unfold padComps; rw [valuesGet_random, hval, clean_of_compact hc]
  cases hs : splitsB X e (randomComponents e bank pinned bban) with
  | false => rw [splitComps_of_not_split X e _ hs]; exact hpad
  | true =>
    obtain ⟨hpos, hbr, hlen⟩ := splitsB_iff.mp hs
    -- a pinned bank code of at most its own width cannot have the combined width
    have h1 : k ≠ .bankCode := by
      rintro rfl
      rw [hpad, zfill_length] at hlen
      omega
    -- a pinned, non-empty branch code is not empty after cleaning
    have h2 : k ≠ .branchCode := by
      rintro rfl
      rw [valuesGet_random, hval, clean_of_compact hc] at hbr
      exact hne rfl hbr
    rw [splitComps_of_ne X e _ h1 h2]; exact hpad

/-- The registry bank `random.choice(banks)` picked (if any). -/
def chosenBank (X : Ctx) (cc : Str) (useReg : Bool) (ch : Choice) : Option BankEntry :=
  match X.R.byCountry cc, useReg, ch.bank with
  | some banks, true, some i => banks[i]?
  | _, _, _ => none

theorem bban_random_ok (X : Ctx) {cc : Str} {useReg : Bool} {pinned : List (Component × Str)}
    {ch : Choice} {b : Str} {e : Country} (hl : X.T.lookup cc = some e)
    (hps : e.positions.isSome = true) (h : BBAN.random X cc useReg pinned ch = .ok b) :
    ∃ x, BBAN.fromComponents X cc
      (randomComponents e (chosenBank X cc useReg ch) pinned (pyUpper X.U x)) = .ok b := by
  unfold BBAN.random bbanSpec at h
  rw [hl] at h
  simp only [Res.ok_bind] at h
  have hpn := Option.isNone_eq_false_iff.mpr hps
  simp only [hpn, Bool.false_eq_true, ↓reduceIte] at h
  obtain ⟨x, _, hx⟩ := loop_ok X cc e _ pinned 100 ch.xegers b h
  exact ⟨x, hx⟩

/-- **Where the components of a random IBAN sit.**  If `IBAN.random` returns an IBAN for a country
    with published positions and the pinned values conform, every component other than the check
    digits is found in the IBAN's BBAN at its published position, as `from_components` made it of the
    values of the successful attempt. -/
theorem random_placement (X : Ctx) (hU : X.U.WF) (hT : X.T.WF) {cc : Str} (hA : C08.defaultsNat X.A cc)
    {useReg : Bool} {pinned : List (Component × Str)} {ch : Choice} {i : Str} {e : Country}
    (hl : X.T.lookup cc = some e) (hps : e.positions.isSome = true)
    (hP : PinnedOk X.U e pinned) (hD : DefaultsOk X.U e)
    (h : IBAN.random X cc useReg pinned ch = .ok i) :
    ∃ x, (i.drop 4).length = e.bbanLength ∧ ∀ k r, publishedAt e k r → k ≠ .nationalChecksumDigits →
      slice (i.drop 4) r.start r.stop =
        splitComps X e (randomComponents e (chosenBank X cc useReg ch) pinned (pyUpper X.U x)) k := by
  obtain ⟨b, hb, h⟩ := Res.bind_eq_ok h
  obtain ⟨x, hfc⟩ := bban_random_ok X hl hps hb
  obtain ⟨hblen, _, hdrop, _, _⟩ :=
    C08.fromBban_ok X hU hT hl (fromComponents_compact X hU hfc) h
  obtain ⟨cs, _, hpl, _⟩ := fromComponents_readback X hU hT hA hfc hl hblen
    (fun k h1 h2 _ _ => by rw [valuesGet_random]; exact rcValue_other_fits hU hP hD x h1 h2)
  rw [hdrop]
  exact ⟨x, hblen, fun k r hpub hkn => range_of_published hpub ▸ hpl k hkn⟩

/-- **Pinned components are read back.**  If `IBAN.random` returns an IBAN for a country with
    published positions, and the pinned values are compact texts no longer than their fields, then
    every pinned component (a pinned branch code being non-empty) sits, left-padded with zeros, at
    its published position of the IBAN's BBAN. -/
theorem pinned_readback (X : Ctx) (hU : X.U.WF) (hT : X.T.WF) {cc : Str} (hA : C08.defaultsNat X.A cc)
    {useReg : Bool} {pinned : List (Component × Str)} {ch : Choice} {i : Str} {e : Country}
    (hl : X.T.lookup cc = some e) (hps : e.positions.isSome = true)
    (hP : PinnedOk X.U e pinned) (hD : DefaultsOk X.U e)
    (h : IBAN.random X cc useReg pinned ch = .ok i) :
    ∀ k v r, pinned.lookup k = some v → (k = .branchCode → v ≠ []) → publishedAt e k r →
      k ≠ .nationalChecksumDigits → slice (i.drop 4) r.start r.stop = zfill v (r.stop - r.start) := by
  intro k v r hp hne hpub hkn
  obtain ⟨x, _, hpl⟩ := random_placement X hU hT hA hl hps hP hD h
  rw [hpl k r hpub hkn, splitComps_pinned X hP _ hp hne, range_of_published hpub]
  rfl

/-- **Listed-bank membership.**  If the draw used the registry bank `bk` (bank and branch code not
    pinned) and `bk`'s bank code is a compact text of the width of the country's bank-identifying
    field — the bank code field, or bank and branch code fields together — then the bank-identifying
    key of the returned IBAN is `bk`'s bank code. -/
theorem listed_bank (X : Ctx) (hU : X.U.WF) (hT : X.T.WF) {cc : Str} (hA : C08.defaultsNat X.A cc)
    {useReg : Bool} {pinned : List (Component × Str)} {ch : Choice} {i : Str} {e : Country}
    (hl : X.T.lookup cc = some e) (hps : e.positions.isSome = true)
    (hP : PinnedOk X.U e pinned) (hD : DefaultsOk X.U e)
    (hpb : pinned.lookup .bankCode = none) (hpr : pinned.lookup .branchCode = none)
    {bk : BankEntry} (hbank : chosenBank X cc useReg ch = some bk)
    (hne : bk.bankCode ≠ []) (hc : Compact X.U bk.bankCode)
    {rb : Range} (hrb : publishedAt e .bankCode rb)
    (hkey : (e.bicLookup.getD [.bankCode] = [.bankCode] ∧ bk.bankCode.length = rb.stop - rb.start) ∨
      (∃ rr, publishedAt e .branchCode rr ∧ e.bicLookup.getD [.bankCode] = [.bankCode, .branchCode] ∧
        bk.bankCode.length = (rb.stop - rb.start) + (rr.stop - rr.start)))
    (h : IBAN.random X cc useReg pinned ch = .ok i) :
    lookupKey e (i.drop 4) = bk.bankCode := by
  obtain ⟨x, hblen, hpl⟩ := random_placement X hU hT hA hl hps hP hD h
  rw [hbank] at hpl
  have hW := hT.of_lookup hl
  have hbl : (e.range .bankCode).length = rb.stop - rb.start := by rw [range_of_published hrb]; rfl
  have hge : rb.stop - rb.start ≤ bk.bankCode.length := by
    rcases hkey with ⟨_, h⟩ | ⟨_, _, _, h⟩ <;> omega
  -- the bank field receives the part of the listed code that fills it
  have hpadB : padComps X e (randomComponents e (some bk) pinned (pyUpper X.U x)) .bankCode =
      bk.bankCode.take (rb.stop - rb.start) := by
    have hv := (valuesGet_random e (some bk) pinned (pyUpper X.U x) .bankCode).trans
      (rcValue_bank_drawn e _ hpb hne)
    rw [padComps, hv, clean_of_compact (compact_take hc _), hbl]
    exact zfill_of_le (by rw [List.length_take]; omega)
  rw [lookupKey_eq hW hblen]
  rcases hkey with ⟨hL, hlen⟩ | ⟨rr, hrr, hL, hlen⟩
  · -- the key is the bank code field: no combined width, so no split
    have hns : splitsB X e (randomComponents e (some bk) pinned (pyUpper X.U x)) = false := by
      unfold splitsB
      rw [hpadB, List.length_take, hbl]
      by_cases h0 : (e.range .branchCode).length = 0
      · simp [h0]
      · simp only [Bool.and_eq_false_iff, beq_eq_false_iff_ne, ne_eq, decide_eq_false_iff_not]
        right; omega
    rw [hL]
    simp only [List.map, List.flatten_cons, List.flatten_nil, List.append_nil]
    rw [range_of_published hrb, Range.cut, hpl .bankCode rb hrb (by decide),
      splitComps_of_not_split X e _ hns, hpadB]
    exact List.take_of_length_le (Nat.le_of_eq hlen)
  · -- the key is bank code field followed by branch code field: `random` cuts the listed code in two
    have hrl : (e.range .branchCode).length = rr.stop - rr.start := by rw [range_of_published hrr]; rfl
    have hrpos : 0 < rr.stop - rr.start := by
      have := hW.bounds (_, rr) (List.mem_of_lookup hrr); simp only at this; omega
    have hv := (valuesGet_random e (some bk) pinned (pyUpper X.U x) .branchCode).trans
      (rcValue_branch_drawn e _ hpb hpr hne (by omega))
    rw [hbl, hrl] at hv
    have hpadR : padComps X e (randomComponents e (some bk) pinned (pyUpper X.U x)) .branchCode =
        slice bk.bankCode (rb.stop - rb.start) ((rb.stop - rb.start) + (rr.stop - rr.start)) := by
      rw [padComps, hv, clean_of_compact (compact_slice hc _ _), hrl]
      exact zfill_of_le (by rw [slice_length (by omega)]; omega)
    -- a non-empty branch code was handed over, so `from_components` does not split again
    have hns : splitsB X e (randomComponents e (some bk) pinned (pyUpper X.U x)) = false := by
      have : slice bk.bankCode (rb.stop - rb.start) ((rb.stop - rb.start) + (rr.stop - rr.start)) ≠ [] :=
        fun h0 => by
          have := slice_length (b := bk.bankCode) (s := rb.stop - rb.start)
            (t := (rb.stop - rb.start) + (rr.stop - rr.start)) (by omega)
          rw [h0] at this; simp at this; omega
      simp [splitsB, hv, clean_of_compact (compact_slice hc _ _), this]
    rw [hL]
    simp only [List.map, List.flatten_cons, List.flatten_nil, List.append_nil]
    rw [range_of_published hrb, range_of_published hrr, Range.cut, Range.cut,
      hpl .bankCode rb hrb (by decide), hpl .branchCode rr hrr (by decide),
      splitComps_of_not_split X e _ hns, splitComps_of_not_split X e _ hns, hpadB, hpadR, slice,
      List.take_of_length_le (Nat.le_of_eq hlen), List.take_append_drop]

theorem chosenBank_mem {X : Ctx} {cc : Str} {useReg : Bool} {ch : Choice} {bk : BankEntry}
    (h : chosenBank X cc useReg ch = some bk) : bk ∈ X.R ∧ bk.countryCode = cc ∧ cc ≠ [] := by
  unfold chosenBank at h
  split at h
  · next _ _ hb _ => exact Registry.mem_byCountry hb (List.mem_of_getElem? h)
  · cases h

/-- The IBAN's `bank` lookup finds an entry of the registry with the drawn bank's bank code:
    a registry-based draw belongs to a listed bank. -/
theorem listed_bank_found (X : Ctx) (hU : X.U.WF) (hT : X.T.WF) {cc : Str} (hA : C08.defaultsNat X.A cc)
    {useReg : Bool} {pinned : List (Component × Str)} {ch : Choice} {i : Str} {e : Country}
    (hl : X.T.lookup cc = some e) (hps : e.positions.isSome = true)
    (hP : PinnedOk X.U e pinned) (hD : DefaultsOk X.U e)
    (hpb : pinned.lookup .bankCode = none) (hpr : pinned.lookup .branchCode = none)
    {bk : BankEntry} (hbank : chosenBank X cc useReg ch = some bk)
    (hne : bk.bankCode ≠ []) (hc : Compact X.U bk.bankCode)
    {rb : Range} (hrb : publishedAt e .bankCode rb)
    (hkey : (e.bicLookup.getD [.bankCode] = [.bankCode] ∧ bk.bankCode.length = rb.stop - rb.start) ∨
      (∃ rr, publishedAt e .branchCode rr ∧ e.bicLookup.getD [.bankCode] = [.bankCode, .branchCode] ∧
        bk.bankCode.length = (rb.stop - rb.start) + (rr.stop - rr.start)))
    (h : IBAN.random X cc useReg pinned ch = .ok i) :
    ∃ y, BBAN.bank X cc (i.drop 4) = .ok (some y) ∧ y ∈ X.R ∧ y.countryCode = cc ∧
      y.bankCode = bk.bankCode := by
  obtain ⟨hmem, hcc, hccne⟩ := chosenBank_mem hbank
  exact BBAN.bank_of_key X hl hccne hmem hcc hne
    (listed_bank X hU hT hA hl hps hP hD hpb hpr hbank hne hc hrb hkey h)

/-- Decidable, and sufficient for `DefaultsOk` of every country of a table. -/
def defaultsAlnumB (T : Table) : Bool := T.all (fun e => e.defaults.all (fun p => allAlnum p.2))

theorem defaultsOk_of_B {U : Unicode} (hU : U.WF) {T : Table} (h : defaultsAlnumB T = true)
    {cc : Str} {e : Country} (hl : T.lookup cc = some e) : DefaultsOk U e := by
  intro k d hd
  simp only [defaultsAlnumB, List.all_eq_true] at h
  have := h e (Table.lookup_mem hl).1 (k, d) (List.mem_of_lookup hd)
  exact compact_of_allAlnum hU this

theorem live_defaults_alnum : defaultsAlnumB Gen.table = true := by decide +kernel

theorem live_pinned_readback (R : Registry) {cc : Str} {useReg : Bool}
    {pinned : List (Component × Str)} {ch : Choice} {i : Str} {e : Country}
    (hl : Gen.table.lookup cc = some e) (hps : e.positions.isSome = true)
    (hP : PinnedOk Gen.unicode e pinned)
    (h : IBAN.random (Gen.ctx R) cc useReg pinned ch = .ok i) :
    ∀ k v r, pinned.lookup k = some v → (k = .branchCode → v ≠ []) → publishedAt e k r →
      k ≠ .nationalChecksumDigits → slice (i.drop 4) r.start r.stop = zfill v (r.stop - r.start) :=
  pinned_readback (Gen.ctx R) C10.unicode_wf C01.table_wf
    (C08.defaultsNat_of_B C08.live_defaults_nat cc) hl hps hP
    (defaultsOk_of_B C10.unicode_wf live_defaults_alnum hl) h

/-! Non-vacuity: a draw for DE with the account code pinned (choice record: no registry bank, one
    `xeger` string) returns an IBAN that carries the pinned value, zero-padded. -/
example : IBAN.random (Gen.ctx []) (C06.bytes "DE") false [(.accountCode, C06.bytes "532013000")]
    ⟨none, [C06.bytes "370400449999999999"]⟩ = .ok (C06.bytes "DE89370400440532013000") := by
  decide +kernel

/-! Non-vacuity of `listed_bank`: a registry-based draw for DE (registry with one German bank, the
    bank index 0 drawn, one `xeger` string) carries the drawn bank's code and is found again. -/
example :
    let R : Registry := [⟨C06.bytes "DE", C06.bytes "37040044", some (C06.bytes "COBADEFFXXX"), true, none,
      C06.bytes "Commerzbank", C06.bytes "Commerzbank"⟩]
    IBAN.random (Gen.ctx R) (C06.bytes "DE") true [] ⟨some 0, [C06.bytes "999999990532013000"]⟩ =
      .ok (C06.bytes "DE89370400440532013000") := by decide +kernel

end SV.Props.C13
