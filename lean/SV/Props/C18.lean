/-
  C18 — Registry files compose in name order: deep later-wins merge, list concatenation.

  Laws of `merge_dicts` for ALL pairs of JSON documents (trees of any shape and depth), the
  composition of a directory of files, v2 expansion, and the instance obligation that the Lean
  composition of the files on disk is the effective country table the live library computed.
-/
import SV.Proofs.Registry
import SV.Proofs.BankLookup
import SV.Proofs.TableWF
import SV.Gen.Files
import SV.Gen.BankFacts
import SV.Gen.Countries
import SV.Proofs.Decode
namespace SV.Props.C18
open SV

/-- One level: common key with two dicts → merged recursively; common key otherwise → the later
    file's value; other keys keep their value.  Independent of member order. -/
theorem merge_get (k : Str) (l r : List (Str × J)) :
    lookupJ k (mergeDicts l r) =
      match lookupJ k l, lookupJ k r with
      | some lv, some rv => some (J.merge lv rv)
      | some lv, none => some lv
      | none, some rv => some rv
      | none, none => none :=
  SV.merge_get k l r

/-- Recursion happens exactly for two dicts; any other pair is replaced by the later value
    (dict-versus-scalar conflicts both ways). -/
theorem merge_values (lv rv : J) :
    J.merge lv rv = match lv, rv with
      | .obj a, .obj b => .obj (mergeDicts a b)
      | _, r => r :=
  merge_dict_dict lv rv

theorem merge_keys (k : Str) (l r : List (Str × J)) :
    hasKey k (mergeDicts l r) = (hasKey k l || hasKey k r) :=
  SV.merge_keys k l r

/-- An overlay changes nothing it does not name (any depth). -/
theorem untouched_survives (l r : J) (p : List Str) (hl : l.isObj = true) (hr : r.isObj = true)
    (h : untouched r p = true) : getPath (J.merge l r) p = getPath l p := by
  rw [getPath_merge, getPath_untouched r p h, h]; rfl

/-- An overlay changes exactly the keys it names: its non-dict values end up at their paths. -/
theorem named_wins (l r : J) (p : List Str) (v : J) (hr : r.isObj = true)
    (h : getPath r p = some v) (hv : v.isObj = false) : getPath (J.merge l r) p = some v := by
  rw [getPath_merge, h]
  cases getPath l p <;> simp [J.merge_of_not_obj (.inr hv)]

/-- Composition of a directory: the files are taken in file-name order; the first chunk is the
    start value, each further dict is merged onto the result so far (a LEFT fold), each further
    list is appended. -/
theorem get_is_left_fold (files : List RegFile) :
    registryGet files =
      match foldGet (sortByName files) none with
      | some (some d) => some d
      | _ => none := rfl

/-- The file name is "x.json"; `foldGet_cons_dict` is the same for any name outside `_v2`. -/
theorem fold_step_dict (l r : List (Str × J)) (rest : List RegFile) :
    foldGet (⟨[120, 46, 106, 115, 111, 110], .obj r⟩ :: rest) (some (.obj l)) =
      foldGet rest (some (.obj (mergeDicts l r))) :=
  foldGet_cons_dict (f := ⟨_, _⟩) (show isV2 [120, 46, 106, 115, 111, 110] = false by decide) rfl l rest

theorem fold_step_list (l c : List J) (rest : List RegFile) :
    foldGet (⟨[120, 46, 106, 115, 111, 110], .arr c⟩ :: rest) (some (.arr l)) =
      foldGet rest (some (.arr (l ++ c))) :=
  foldGet_cons_list (f := ⟨_, _⟩) (show isV2 [120, 46, 106, 115, 111, 110] = false by decide) rfl l rest

theorem sortByName_length (fs : List RegFile) : (sortByName fs).length = fs.length := by
  unfold sortByName
  induction fs with
  | nil => rfl
  | cons f t ih =>
    simp only [List.foldr_cons, List.length_cons]
    rw [← ih]
    generalize List.foldr insertByName [] t = s
    induction s with
    | nil => rfl
    | cons g u ihu =>
      simp only [insertByName]
      split
      · rfl
      · simp [ihu]

/-- The merge is not associative: folding from the right would give another document — three
    files where a key is a dict, then a scalar, then a dict again. -/
theorem left_fold_matters :
    let a : J := .obj [([107], .obj [([120], .num 1)])]
    let b : J := .obj [([107], .null)]
    let c : J := .obj [([107], .obj [([121], .num 2)])]
    J.eqv (J.merge (J.merge a b) c) (J.merge a (J.merge b c)) = false := by decide +kernel

/-- v2 expansion: every expanded entry carries the value under the target key, keeps every other
    member of the compact entry except the source list, and gets `primary = False` if it had none. -/
theorem v2_entry (src dst : Str) (kv : List (Str × J)) (vs : List J)
    (h : lookupJ src kv = some (.arr vs)) :
    expandEntry src dst (.obj kv) =
      some (vs.map (fun v => .obj (setKey dst v
        (if hasKey strPrimary (removeKey src kv) then removeKey src kv
         else removeKey src kv ++ [(strPrimary, .bool false)])))) := by
  simp [expandEntry, h]

theorem v2_target (dst : Str) (v : J) (rest : List (Str × J)) :
    lookupJ dst (setKey dst v rest) = some v := lookupJ_setKey_same dst v rest

theorem v2_other {k dst : Str} (h : (k == dst) = false) (v : J) (rest : List (Str × J)) :
    lookupJ k (setKey dst v rest) = lookupJ k rest := lookupJ_setKey_other h v rest

theorem v2_source_removed (src k : Str) (kv : List (Str × J)) :
    lookupJ k (removeKey src kv) = if (k == src) = true then none else lookupJ k kv :=
  lookupJ_removeKey src k kv

/-- The Lean composition of the `iban_registry/*.json` files on disk IS the effective country
    table the live library computed at import (`registry.get("iban")`, minus the compiled `regex`
    objects that `manipulate` adds), as documents up to member order. -/
theorem effective_eq_merge_of_files :
    (registryGet Gen.ibanFiles).map
      (fun d => J.eqv d Gen.effectiveIban && J.eqv Gen.effectiveIban d) = some true := by
  decide +kernel

/-- The effective bank list has as many entries as the files contribute (v2 files expanded). -/
theorem bank_list_is_concatenation_count :
    (Gen.bankFiles.map (·.2)).sum = Gen.bankCount := by decide +kernel

/-- No registry file gives a member name twice inside one object: the documents `json.load` delivers
    (which all theorems here are about) contain everything the files' texts name. -/
theorem live_no_duplicate_members : Gen.duplicateMembers = [] := by decide

/-- The files the code expands (it goes by the file name: stem ending in `v2`) are exactly the files
    whose document has the compact v2 shape. -/
theorem v2_files : Gen.bankFileShapes.all (fun f => isV2 f.1 == f.2) = true := by
  decide +kernel

/-! ### "Validation, generation and lookup follow the effective data"

  Every IBAN / BBAN theorem of this development is about a typed table (`SV.Table`); the registry
  theorems above are about JSON documents.  The two are tied here: the typed table the other
  properties' obligations are checked on (`Gen.table`) is, entry by entry and key by key as the code
  reads them, the effective document — which `effective_eq_merge_of_files` shows to be the
  composition of the files on disk. -/

/-- What `_get_position_range(spec, k)` reads from a country's document. -/
def docRange (kv : List (Str × J)) (k : Component) : Range :=
  match lookupJ strPositions kv with
  | some (.obj ps) => ((lookupJ k.jsonName ps).bind J.asRange?).getD ⟨0, 0⟩
  | _ => ⟨0, 0⟩

/-- A typed entry that matches its document has the document's lengths, structure string and
    position ranges (for every component; `[0, 0]` where the document names none). -/
theorem typed_entry_reads_document (e : Country) (kv : List (Str × J))
    (h : countryMatches e (.obj kv) = true) :
    (lookupJ strBbanSpec kv).bind J.asStr? = some e.bbanSpec ∧
    (lookupJ strBbanLength kv).bind J.asNat? = some e.bbanLength ∧
    (lookupJ strIbanLength kv).bind J.asNat? = some e.ibanLength ∧
    ∀ k, e.range k = docRange kv k := by
  simp only [countryMatches, Bool.and_eq_true, beq_iff_eq] at h
  obtain ⟨⟨⟨⟨⟨h1, h2⟩, h3⟩, h4⟩, _⟩, _⟩ := h
  refine ⟨h1, h2, h3, ?_⟩
  intro k
  unfold Country.range docRange
  unfold positionsMatch at h4
  -- the three arms of `positionsMatch`: neither side has positions; both have; anything else is `false`
  split at h4
  · next hp hd => rw [hp, hd]
  · next ps pkv hp hd =>
    rw [hp, hd]
    simp only [Bool.and_eq_true, List.all_eq_true, beq_iff_eq] at h4
    simp only
    rw [← h4.1 k k.mem_all]
    cases lookupJ k.jsonName pkv with
    | none => rfl
    | some v => simp only [Option.bind_some]; cases v.asRange? <;> rfl
  · cases h4

/-- A typed table that matches a document has, for every key it answers, the document's entry of
    that key, and that entry matches. -/
theorem typed_lookup_reads_document (T : Table) (kv : List (Str × J))
    (h : tableMatches T (.obj kv) = true) {cc : Str} {e : Country} (hl : T.lookup cc = some e) :
    ∃ c, lookupJ cc kv = some c ∧ countryMatches e c = true := by
  simp only [tableMatches, Bool.and_eq_true, List.all_eq_true] at h
  have := h.2 e (Table.lookup_mem hl).1
  rw [(Table.lookup_mem hl).2] at this
  cases hc : lookupJ cc kv with
  | none => rw [hc] at this; cases this
  | some c => rw [hc] at this; exact ⟨c, rfl, this⟩

/-- Instance obligation: the regenerated typed table IS the regenerated effective document. -/
theorem live_typed_table_is_effective_document :
    tableMatches Gen.table Gen.effectiveIban = true := by decide +kernel

/-! ### Lookups follow the concatenation of the bank files

  The bank list is the concatenation of the files in name order; the lookup index lists, for a pair,
  the entries of that pair in list order, so those of an additional (later) file come AFTER those of
  the earlier files. -/

theorem byBankCode_append (R1 R2 : Registry) (cc code : Str) :
    (R1 ++ R2).byBankCode cc code =
      match R1.byBankCode cc code, R2.byBankCode cc code with
      | some a, some b => some (a ++ b)
      | some a, none => some a
      | none, some b => some b
      | none, none => none := by
  simp only [Registry.byBankCode_eq, Registry.listed_append, List.append_eq_nil_iff]
  by_cases hk : cc = [] ∨ code = []
  · rcases hk with hk | hk <;> simp [hk]
  · simp only [not_or] at hk
    cases R1.listed cc code <;> cases R2.listed cc code <;> simp [hk]

/-- An additional file changes nothing for the pairs it does not list. -/
theorem byBankCode_append_unlisted (R1 R2 : Registry) (cc code : Str)
    (h : ∀ e ∈ R2, ¬ (e.countryCode = cc ∧ e.bankCode = code)) :
    (R1 ++ R2).byBankCode cc code = R1.byBankCode cc code := by
  rw [byBankCode_append,
    Registry.byBankCode_eq_none.mpr (.inr (.inr (Registry.listed_eq_nil.mpr h)))]
  cases R1.byBankCode cc code <;> rfl

/-- The first entry of a pair comes from the earliest file that lists the pair. -/
theorem first_entry_from_earlier_file (R1 R2 : Registry) (cc code : Str) (a : List BankEntry)
    (h : R1.byBankCode cc code = some a) :
    ((R1 ++ R2).byBankCode cc code).map List.head? = some a.head? := by
  have hne : a ≠ [] := (Registry.byBankCode_eq_some.mp h).2.2.1
  rw [byBankCode_append, h]
  cases R2.byBankCode cc code with
  | none => rfl
  | some b =>
    cases a with
    | nil => exact absurd rfl hne
    | cons x t => rfl

/-! Non-vacuity -/
example :
    let e1 : BankEntry := ⟨[68, 69], [49], some [65], true, none, [], []⟩
    let e2 : BankEntry := ⟨[68, 69], [49], some [66], false, none, [], []⟩
    let e3 : BankEntry := ⟨[68, 69], [50], some [67], false, none, [], []⟩
    (Registry.byBankCode ([e1] ++ [e2, e3]) [68, 69] [49] = some [e1, e2]) ∧
    (Registry.byBankCode ([e1] ++ [e3]) [68, 69] [49] = Registry.byBankCode [e1] [68, 69] [49]) := by
  decide
example : untouched (.obj [([97], .obj [([98], .num 1)])]) [[97], [99]] = true := by decide
example : (getPath (J.merge (.obj [([97], .obj [([98], .num 1), ([99], .num 5)])])
    (.obj [([97], .obj [([98], .num 2)])])) [[97], [99]]).map (J.eqv · (.num 5)) = some true := by
  decide +kernel

end SV.Props.C18
