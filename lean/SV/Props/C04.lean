/-
  C04 — BIC acceptance is exactly the ISO 9362 structure with a known country code.
-/
import SV.Proofs.Bic
import SV.Gen.Ctx
namespace SV.Props.C04
open SV Spec

/-- Instance obligation: the two compiled patterns of the live `bic.py` are
    `[A-Z0-9]{4}[A-Z]{2}[A-Z0-9]{2}(?:[A-Z0-9]{3})?` and the SWIFT variant with `[A-Z]{4}`. -/
theorem bic_ctx_wf : Gen.bicCtx.WF := ⟨by decide +kernel, by decide +kernel⟩

/-- `validate()` accepts exactly the ISO 9362 predicate, in both compliance modes. -/
theorem validate_iff (X : BicCtx) (hX : X.WF) (c : Str) (strict : Bool) :
    BIC.validate X c strict = .ok true ↔ iso9362 X.iso strict c = true :=
  BIC.validate_ok_iff X hX c strict

/-- **C04**: for every text, constructing a validated BIC succeeds exactly when the cleaned text
    is an ISO 9362 BIC with a known country code (strict mode: letters only in the prefix). -/
theorem accept_iff (X : BicCtx) (hX : X.WF) (s : Str) (strict : Bool) :
    (BIC.new X s false strict).isOk = true ↔ iso9362 X.iso strict (clean X.U s) = true := by
  rw [BIC.new_eq, Res.isOk_bind_const, (BIC.validate_cases X hX _ strict).1]

/-- `is_valid` never raises and is the (non-strict) ISO 9362 predicate. -/
theorem isValid_eq (X : BicCtx) (hX : X.WF) (c : Str) :
    BIC.isValid X c = .ok (iso9362 X.iso false c) :=
  (BIC.validate_cases X hX c false).2.2

/-- On the live patterns and pycountry's code list. -/
theorem accept_iff_live (s : Str) (strict : Bool) :
    (BIC.new Gen.bicCtx s false strict).isOk = true ↔
      iso9362 Gen.iso strict (clean Gen.unicode s) = true :=
  accept_iff Gen.bicCtx bic_ctx_wf s strict

/-! Non-vacuity -/
-- GENODEM1GLS is accepted (non-strict and strict); GENODEM1G-S and 1234DEWWXXX (strict) are not
example : iso9362 Gen.iso false [71, 69, 78, 79, 68, 69, 77, 49, 71, 76, 83] = true := by decide +kernel
example : iso9362 Gen.iso true [71, 69, 78, 79, 68, 69, 77, 49, 71, 76, 83] = true := by decide +kernel
example : iso9362 Gen.iso false [71, 69, 78, 79, 68, 69, 77, 49, 71, 45, 83] = false := by decide +kernel
example : iso9362 Gen.iso true [49, 50, 51, 52, 68, 69, 87, 87, 88, 88, 88] = false := by decide +kernel
example : iso9362 Gen.iso false [49, 50, 51, 52, 68, 69, 87, 87, 88, 88, 88] = true := by decide +kernel

end SV.Props.C04
