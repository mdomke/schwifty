/-
  The checksum stage of `IBAN.validate` as a decision list over plain conditions on the compact
  text, and the equations of the wrappers around `validate` (the constructor, `validate_bban=True`).
-/
import SV.Proofs.IbanCore
import SV.Proofs.Numerify
import SV.Proofs.Res
namespace SV
open Spec

/-- Within `int()`'s digit limit `numerify` raises `InvalidStructure` exactly outside the alphabet. -/
theorem validateChecksum_eq {U : Unicode} {c : Str} (hc : Compact U c) (h4 : 4 ≤ c.length)
    (hn : numLen c ≤ U.maxIntDigits) :
    IBAN.validateChecksum U c =
      if allAlnum c = false then .err .invalidStructure
      else if numVal (c.drop 4 ++ c.take 4) 0 % 97 = 1 ∧
          fmt02 (checkDigits (c.take 2) (c.drop 4)) = (c.take 4).drop 2 then .ok ()
      else .err .invalidChecksumDigits := by
  unfold IBAN.validateChecksum IBAN.numeric
  rw [bban_of_compact hc, countryCode_eq (by omega), checksumDigits_eq h4]
  have hne : ∀ n, 0 < n → c.drop 4 ++ c.take n ≠ [] := fun n hn =>
    List.append_ne_nil_of_right_ne_nil _ (List.ne_nil_of_length_pos (by rw [List.length_take]; omega))
  cases hA : allAlnum c with
  | true =>
    have hA2 : allAlnum (c.drop 4 ++ c.take 2) = true :=
      List.all_eq_true.mpr fun x hx => List.all_eq_true.mp hA x <| by
        rcases List.mem_append.mp hx with h | h
        · exact List.mem_of_mem_drop h
        · exact List.mem_of_mem_take h
    have hl2 : numLen (c.drop 4 ++ c.take 2) ≤ U.maxIntDigits := by
      have h1 := numLen_take_le (c.take 4) 2
      have h2 := numLen_rotate c 4
      rw [show (c.take 4).take 2 = c.take 2 by rw [List.take_take]; rfl] at h1
      rw [numLen_append] at h2 ⊢
      omega
    rw [if_neg (by simp), isoDefaultCompute_eq hA2 (hne 2 (by omega)) hl2,
      numerify_ok (by rw [allAlnum_rotate]; exact hA) (hne 4 (by omega))
        (by rw [numLen_rotate]; exact hn)]
    by_cases hm : numVal (c.drop 4 ++ c.take 4) 0 % 97 = 1 <;>
      by_cases hd : fmt02 (checkDigits (c.take 2) (c.drop 4)) = (c.take 4).drop 2 <;>
      simp [hm, hd]
  | false =>
    rw [if_pos rfl, numerify_err (by rw [allAlnum_rotate, hA]; simp)]
    rfl

theorem IBAN.new_eq (X : Ctx) (s : Str) (vb : Bool) :
    IBAN.new X s false vb = (IBAN.validate X (clean X.U s) vb >>= fun _ => pure (clean X.U s)) := rfl

theorem IBAN.validate_true_eq (X : Ctx) (c : Str) :
    IBAN.validate X c true =
      (IBAN.validate X c false).bind (fun _ =>
        (BBAN.validateNational X (IBAN.countryCode c) (IBAN.bban X.U c)).bind (fun _ => .ok true)) := by
  simp only [IBAN.validate, bind, pure, Res.bind_assoc, if_true, Bool.false_eq_true, if_false]
  rfl

theorem IBAN.validate_ok {X : Ctx} {c : Str} {vb b : Bool} (h : IBAN.validate X c vb = .ok b) :
    b = true := by
  cases vb with
  | true =>
    rw [IBAN.validate_true_eq] at h
    obtain ⟨_, _, h⟩ := Res.bind_eq_ok h
    obtain ⟨_, _, h⟩ := Res.bind_eq_ok h
    exact (Res.ok.inj h).symm
  | false =>
    unfold IBAN.validate at h
    obtain ⟨_, _, h⟩ := Res.bind_eq_ok h
    obtain ⟨_, _, h⟩ := Res.bind_eq_ok h
    obtain ⟨_, _, h⟩ := Res.bind_eq_ok h
    obtain ⟨_, _, h⟩ := Res.bind_eq_ok h
    exact (Res.ok.inj h).symm

theorem IBAN.new_eq_ok {X : Ctx} {s i : Str} {vb : Bool} :
    IBAN.new X s false vb = .ok i ↔ IBAN.validate X (clean X.U s) vb = .ok true ∧ i = clean X.U s := by
  rw [IBAN.new_eq]
  cases h : IBAN.validate X (clean X.U s) vb with
  | ok t => obtain rfl := IBAN.validate_ok h; exact ⟨fun hi => ⟨rfl, (Res.ok.inj hi).symm⟩, fun hi => hi.2 ▸ rfl⟩
  | err _ => exact ⟨fun hi => (nomatch hi), fun hi => (nomatch hi.1)⟩
  | crash _ => exact ⟨fun hi => (nomatch hi), fun hi => (nomatch hi.1)⟩

theorem IBAN.new_isOk (X : Ctx) (s : Str) (vb : Bool) :
    (IBAN.new X s false vb).isOk = true ↔ IBAN.validate X (clean X.U s) vb = .ok true :=
  Res.isOk_iff.trans
    ⟨fun ⟨_, h⟩ => (IBAN.new_eq_ok.mp h).1, fun h => ⟨_, IBAN.new_eq_ok.mpr ⟨h, rfl⟩⟩⟩

theorem IBAN.new_idem {X : Ctx} (hU : X.U.WF) {s i : Str} {vb : Bool}
    (h : IBAN.new X s false vb = .ok i) : IBAN.new X i false vb = .ok i := by
  obtain ⟨hv, rfl⟩ := IBAN.new_eq_ok.mp h
  exact IBAN.new_eq_ok.mpr ⟨by rwa [clean_idem hU], (clean_idem hU s).symm⟩

end SV
