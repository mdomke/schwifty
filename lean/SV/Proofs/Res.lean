/-
  Outcomes: inversion of `>>=`, guards and `translate` when the whole returns; when no foreign
  exception escapes; and `Res.sat`, what a call returns and which foreign exceptions it may raise.
-/
import SV.Model.Basic
namespace SV.Res

variable {α β : Type}

theorem bind_assoc {γ : Type} (x : Res α) (f : α → Res β) (g : β → Res γ) :
    (x.bind f).bind g = x.bind (fun a => (f a).bind g) := by
  cases x <;> rfl

theorem isCrash_bind {r : Res α} {f : α → Res β} (hr : r.isCrash = false)
    (hf : ∀ a, (f a).isCrash = false) : (r >>= f).isCrash = false := by
  cases r with
  | ok a => exact hf a
  | err _ => rfl
  | crash _ => cases hr

theorem isOk_iff {r : Res α} : r.isOk = true ↔ ∃ a, r = .ok a := by
  cases r <;> simp

theorem isOk_of_bind {r : Res α} {f : α → Res β} (h : (r >>= f).isOk = true) : r.isOk = true := by
  cases r <;> first | rfl | cases h

theorem isOk_bind_const (r : Res α) (b : β) : (r >>= fun _ => (pure b : Res β)).isOk = r.isOk := by
  cases r <;> rfl

theorem isCrash_bind_const (r : Res α) (b : β) :
    (r >>= fun _ => (pure b : Res β)).isCrash = r.isCrash := by
  cases r <;> rfl

theorem bind_const_eq_err (r : Res α) (b : β) (k : Err) :
    (r >>= fun _ => (pure b : Res β)) = .err k ↔ r = .err k := by
  cases r <;> simp

/-- The shape of a `validate`: `True` or a library error.  The three conclusions are what the
    constructor and `is_valid` (`try … except SchwiftyException: return False`) make of it. -/
theorem of_true_or_err {r : Res Bool} {b : Bool} (hiff : r = .ok true ↔ b = true)
    (htot : r = .ok true ∨ ∃ k, r = .err k) :
    r.isOk = b ∧ r.isCrash = false ∧ r.catchLib (fun _ => .ok false) = .ok b := by
  rcases htot with h | ⟨k, h⟩
  · rw [hiff.mp h, h]; exact ⟨rfl, rfl, rfl⟩
  · have : b = false := Bool.eq_false_iff.mpr (fun hb => by rw [hiff.mpr hb] at h; cases h)
    rw [this, h]; exact ⟨rfl, rfl, rfl⟩

theorem bind_eq_ok {r : Res α} {f : α → Res β} {b : β} (h : (r >>= f) = .ok b) :
    ∃ a, r = .ok a ∧ f a = .ok b := by
  cases r with
  | ok a => exact ⟨a, rfl, h⟩
  | err e => cases h
  | crash c => cases h

theorem ite_err_eq_ok {c : Prop} [Decidable c] {x : Err} {r : Res α} {a : α}
    (h : (if c then .err x else r) = .ok a) : ¬ c ∧ r = .ok a := by
  split at h
  · cases h
  · exact ⟨‹_›, h⟩

theorem bind_guard_eq_ok {r : Res Bool} {k : Err} :
    (r.bind fun ok => if ok then .ok true else .err k) = .ok true ↔ r = .ok true := by
  cases r with
  | ok t => cases t <;> simp [Res.bind]
  | _ => simp [Res.bind]

theorem translate_eq_ok {r : Res α} {e : Err} {a : α} : r.translate e = .ok a ↔ r = .ok a := by
  cases r with
  | crash c => cases c <;> simp [translate]
  | _ => simp [translate]

theorem isCrash_ite {c : Prop} [Decidable c] {a b : Res α} (ha : a.isCrash = false)
    (hb : b.isCrash = false) : (if c then a else b).isCrash = false := by
  split <;> assumption

/-- If `r` returns, the value satisfies `Q`; if it raises a foreign exception, it is one of those
    that `except (ValueError, LookupError)` of `compute_national_checksum` catches. -/
def sat (Q : α → Prop) : Res α → Prop
  | .ok a => Q a
  | .err _ => True
  | .crash c => c = .valueError ∨ c = .keyError ∨ c = .indexError

theorem sat_bind {x : Res α} {f : α → Res β} {Q : β → Prop}
    (hx : x.sat fun _ => True) (hf : ∀ a, (f a).sat Q) : (x >>= f).sat Q := by
  cases x with
  | ok a => exact hf a
  | err _ => trivial
  | crash _ => exact hx

theorem sat_of_not_crash {r : Res α} (h : r.isCrash = false) : r.sat fun _ => True := by
  cases r <;> first | trivial | cases h

theorem sat_ok {r : Res α} {Q : α → Prop} {a : α} (h : r.sat Q) (e : r = .ok a) : Q a := by
  subst e; exact h

theorem translate_sat {r : Res α} {Q : α → Prop} (h : r.sat Q) (e : Err) :
    (r.translate e).isCrash = false := by
  cases r with
  | ok _ => rfl
  | err _ => rfl
  | crash c => rcases h with h | h | h <;> subst h <;> rfl

end SV.Res
