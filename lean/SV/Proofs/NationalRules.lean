/-
  For ES, FR, MC, IT, SM, FI, NO, PL, EE, CZ, SK and IS, the two halves of "the national check
  accepts exactly the published rule of `SV.Spec.National`": for a country of known layout the check
  of a fitting BBAN is the algorithm applied to the slices at the published positions, and on
  digit / alphanumeric components the algorithm's verdict is the Spec expression.
-/
import SV.Proofs.NationalValues
import SV.Proofs.National
import SV.Proofs.Fits
namespace SV
open Spec

theorem componentsOf_map (e : Country) (b : Str) : ∀ ks : List Component,
    componentsOf e b ks = (ks.map e.range).map (fun r => getSlice b r.start (some r.stop))
  | [] => rfl
  | k :: t => by simp [componentsOf, componentsOf_map e b t]

/-- Decidable description of "country `cc` is registered for algorithm `alg`, the algorithm's
    declared fields sit at `fields`, the check-digit field at `chk`, and the structure string
    expands to the classes `cls`". -/
def layoutAlgo (T : Table) (A : AlgoTable) (alg : NatAlgo) (cc : Str) (cls : List SClass)
    (fields : List Range) (chk : Range) : Bool :=
  match T.lookup cc, A.get (defaultKey cc) with
  | some e, some a =>
    a.ref.isNat alg && (a.accepts.map e.range == fields) &&
    (e.range .nationalChecksumDigits == chk) &&
    ((parseSpec e.bbanSpec).map expandSpec == some cls)
  | _, _ => false

theorem layoutAlgo_spec {T : Table} {A : AlgoTable} {alg : NatAlgo} {cc : Str} {cls : List SClass}
    {fields : List Range} {chk : Range} (hp : layoutAlgo T A alg cc cls fields chk = true) :
    ∃ e a, T.lookup cc = some e ∧ A.get (defaultKey cc) = some a ∧ a.ref = .nat alg ∧
      a.accepts.map e.range = fields ∧ e.range .nationalChecksumDigits = chk ∧
      (parseSpec e.bbanSpec).map expandSpec = some cls := by
  unfold layoutAlgo at hp
  split at hp
  · next e a hl ha =>
    simp only [Bool.and_eq_true, beq_iff_eq] at hp
    obtain ⟨⟨⟨href, hf⟩, hc⟩, hs⟩ := hp
    exact ⟨e, a, hl, ha, AlgoRef.eq_of_isNat href, hf, hc, hs⟩
  · cases hp

/-- **Layout dispatch**: with no method named by the registry, the national check of a country
    with a known layout is the registered algorithm applied to the slices at the published
    positions. -/
theorem layout_dispatch (X : Ctx) {alg : NatAlgo} {cc : Str} {cls : List SClass}
    {fields : List Range} {chk : Range}
    (hp : layoutAlgo X.T X.A alg cc cls fields chk = true)
    (hR : ∀ x ∈ X.R, x.countryCode = cc → x.checksumAlgo = none) (b : Str) :
    BBAN.validateNational X cc b =
      (alg.validate X.U (fields.map (fun r => getSlice b r.start (some r.stop)))
        (getSlice b chk.start (some chk.stop))).bind
        (fun ok => if ok then .ok true else .err .invalidBBANChecksum) := by
  obtain ⟨e, a, hl, ha, href, rfl, rfl, -⟩ := layoutAlgo_spec hp
  rw [validateNational_dispatch X hl hR, ha]
  simp only
  rw [href, componentsOf_map]
  rfl

theorem length_digits_of_fits {k : Nat} {b : Str} (hf : fitsClasses (List.replicate k .n) b = true) :
    b.length = k ∧ allDigits b = true :=
  ⟨by simpa using fitsClasses_length hf, digits_of_fits hf (by simp [clsDigits])⟩

theorem wsum_trunc : ∀ (ws ws' : List Nat) (s : Str), s.length ≤ ws.length →
    wsum (ws ++ ws') s = wsum ws s
  | [], ws', [], _ => by cases ws' <;> rfl
  | [], _, _ :: _, h => absurd h (Nat.not_succ_le_zero _)
  | _ :: _, _, [], _ => rfl
  | w :: ws, ws', c :: t, h =>
    congrArg (w * dv c + ·) (wsum_trunc ws ws' t (Nat.le_of_succ_le_succ h))

theorem es_digit (s : Nat) : natToDigits (esReconcile (11 - s % 11)) = [48 + spainDigit s] := by
  have h : spainDigit s < 10 := by
    simp only [spainDigit]; split
    · omega
    · split <;> omega
  exact natToDigits_digit h

theorem es_validate_val {U : Unicode} (hU : U.WF) {bank branch account : Str}
    (h1 : allDigits bank = true) (h2 : allDigits branch = true) (h3 : allDigits account = true)
    (ex : Str) :
    NatAlgo.es.validate U [bank, branch, account] ex =
      .ok (ex == [48 + spainDigit (wsum [4, 8, 5, 10, 9, 7, 3, 6] (bank ++ branch)),
                  48 + spainDigit (wsum [1, 2, 4, 8, 5, 10, 9, 7, 3, 6] account)]) := by
  have hbb : allDigits (bank ++ branch) = true := by rw [allDigits_append, h1, h2]; rfl
  simp only [NatAlgo.validate_inherited U (n := .es) (by decide) (by decide), NatAlgo.compute_es,
    esCompute, weighted_val hU _ _ _ hbb, weighted_val hU _ _ _ h3, esWeights, bind, Res.bind, pure,
    es_digit]
  rfl

theorem tenMinus (s : Nat) : natToDigits (if s % 10 = 0 then s % 10 else 10 - s % 10) =
    [48 + (10 - s % 10) % 10] := by
  have hd : s % 10 < 10 := Nat.mod_lt _ (by decide)
  generalize s % 10 = d at hd ⊢
  by_cases h : d = 0
  · subst h; rfl
  · rw [if_neg h, Nat.mod_eq_of_lt (by omega), natToDigits_digit (by omega)]

theorem pl_validate_val {U : Unicode} (hU : U.WF) {cs : List Str}
    (h : cs.all allDigits = true) (ex : Str) :
    NatAlgo.pl.validate U cs ex =
      .ok (ex == [48 + (10 - wsum [3, 9, 7, 1, 3, 9, 7] (joinStrs cs) % 10) % 10]) := by
  simp only [NatAlgo.validate_inherited U (n := .pl) (by decide) (by decide), NatAlgo.compute_pl,
    plCompute, weighted_val hU _ _ _ (allDigits_flatten h), bind, Res.bind, pure, tenMinus]

theorem ee_validate_val {U : Unicode} (hU : U.WF) {cs : List Str}
    (h : cs.all allDigits = true) (hl : (joinStrs cs).length = 13) (ex : Str) :
    NatAlgo.ee.validate U cs ex =
      .ok (ex ==
        [48 + (10 - wsum [7, 3, 1, 7, 3, 1, 7, 3, 1, 7, 3, 1, 7] (joinStrs cs).reverse % 10) % 10]) := by
  have hw : cycleWeights [7, 3, 1] (joinStrs cs).reverse.length =
      [7, 3, 1, 7, 3, 1, 7, 3, 1, 7, 3, 1, 7] := by
    rw [List.length_reverse, hl]; decide
  simp only [NatAlgo.validate_inherited U (n := .ee) (by decide) (by decide), NatAlgo.compute_ee,
    eeCompute, hw, weighted_val hU _ _ _ (allDigits_reverse (allDigits_flatten h)), bind, Res.bind,
    pure, tenMinus]

theorem cz_validate_val {U : Unicode} (hU : U.WF) {branch account : Str}
    (h1 : allDigits branch = true) (h2 : allDigits account = true) (ex : Str) :
    NatAlgo.czsk.validate U [branch, account] ex =
      .ok (wsum [10, 5, 8, 4, 2, 1] branch % 11 == 0 &&
           wsum [6, 3, 7, 9, 10, 5, 8, 4, 2, 1] account % 11 == 0) := by
  have hw : [6, 3, 7, 9, 10, 5, 8, 4, 2, 1].drop 4 = [10, 5, 8, 4, 2, 1] := by decide
  simp only [NatAlgo.validate_czsk, czValidate, hw, weighted_val hU _ _ _ h1, weighted_val hU _ _ _ h2,
    bind, Res.bind, pure]

/-- `str(r) if r == 0 else str(11 - r)` against one character: for `r = 1` the text `"10"` has two
    characters, otherwise it is the one digit. -/
theorem is_digit {r : Nat} (hr : r < 11) (x : Nat) :
    ((if r = 0 then natToDigits r else natToDigits (11 - r)) == [x]) =
    (r != 1 && [x] == [48 + (if r = 0 then 0 else 11 - r)]) := by
  rw [beq_str_comm]
  by_cases h0 : r = 0
  · subst h0; rfl
  · by_cases h1 : r = 1
    · subst h1; simp [show natToDigits 10 = [49, 48] by decide]
    · have hne : (r != 1) = true := by simpa using h1
      rw [if_neg h0, if_neg h0, natToDigits_digit (by omega), hne, Bool.true_and]

theorem is_validate_val {U : Unicode} (hU : U.WF) {holder : Str}
    (h : allDigits holder = true) (hl : holder.length = 10) (ex : Str) :
    NatAlgo.is_.validate U [holder] ex =
      .ok (wsum [3, 2, 7, 6, 5, 4, 3, 2] holder % 11 != 1 &&
        slice holder 8 9 ==
          [48 + (if wsum [3, 2, 7, 6, 5, 4, 3, 2] holder % 11 = 0 then 0
                 else 11 - wsum [3, 2, 7, 6, 5, 4, 3, 2] holder % 11)]) := by
  have h8 : 8 < holder.length := by omega
  have hs := slice_single h8
  have hg : holder[8]? = some holder[8] := by simp [h8]
  simp only [NatAlgo.validate_is, isValidate, isCompute, weighted_val hU _ _ _ h, bind, Res.bind,
    pure, hg, hs]
  congr 1
  have := is_digit (Nat.mod_lt (wsum [3, 2, 7, 6, 5, 4, 3, 2] holder) (by decide : 0 < 11)) holder[8]
  split <;> simp_all

theorem no_validate_val {U : Unicode} (hU : U.WF) {bank account : Str}
    (h1 : allDigits bank = true) (h2 : allDigits account = true) (ex : Str) :
    NatAlgo.no.validate U [bank, account] ex =
      (let s := wsum [5, 4, 3, 2, 7, 6, 5, 4, 3, 2]
                  (if account.take 2 == [48, 48] then account.drop 2 else bank ++ account)
       if 11 - s % 11 = 10 then .err .invalidAccountCode
       else .ok (ex == [48 + (11 - s % 11) % 11])) := by
  have hv : allDigits (if account.take 2 == [48, 48] then account.drop 2 else bank ++ account)
      = true := by
    split
    · exact allDigits_drop 2 h2
    · rw [allDigits_append, h1, h2]; rfl
  simp only [NatAlgo.validate_inherited U (n := .no) (by decide) (by decide), NatAlgo.compute_no,
    noCompute, joinStrs_cons, joinStrs_nil, List.append_nil, weightedSum_val hU _ _ hv, bind,
    Res.bind, pure]
  generalize wsum _ _ = s
  by_cases h10 : 11 - s % 11 = 10
  · simp only [h10, if_true]
  · simp only [h10, if_false, natToDigits_digit (show (11 - s % 11) % 11 < 10 by omega)]

theorem fi_validate_val {cs : List Str} (U : Unicode) (h : cs.all allDigits = true) (ex : Str) :
    NatAlgo.fi.validate U cs ex =
      .ok (ex == [48 + (10 - luhnR (joinStrs cs).reverse 0 % 10) % 10]) := by
  have h := allDigits_flatten h
  simp only [NatAlgo.validate_inherited U (n := .fi) (by decide) (by decide), NatAlgo.compute_fi,
    fiCompute, luhn, luhnNumerical_val _ h, bind, Res.bind, pure]
  rw [← List.map_reverse, luhnSum_val _ 0 (allDigits_reverse h)]
  have : (10 - luhnR (joinStrs cs).reverse 0 % 10) % 10 < 10 := Nat.mod_lt _ (by decide)
  rw [natToDigits_digit this]

theorem ribNum_append : ∀ (s t : Str) (acc : Nat), ribNum (s ++ t) acc = ribNum t (ribNum s acc)
  | [], _, _ => rfl
  | c :: s, t, acc => by simp only [List.cons_append, ribNum]; exact ribNum_append s t _

theorem ribNum_acc : ∀ (s : Str) (acc : Nat), ribNum s acc = acc * 10 ^ s.length + ribNum s 0
  | [], acc => by simp [ribNum]
  | c :: s, acc => by
    simp only [ribNum, List.length_cons]
    rw [ribNum_acc s (acc * 10 + ribVal c), ribNum_acc s (0 * 10 + ribVal c)]
    rw [Nat.pow_succ]
    simp only [Nat.zero_mul, Nat.zero_add, Nat.add_mul, Nat.mul_assoc, Nat.add_assoc]
    rw [Nat.mul_comm 10 (10 ^ s.length)]

theorem fr_validate_val (U : Unicode) {bank branch account : Str}
    (h1 : allAlnum bank = true) (h2 : allAlnum branch = true) (h3 : allAlnum account = true)
    (l1 : bank.length = 5) (l2 : branch.length = 5) (l3 : account.length = 11)
    (hm : 11 ≤ U.maxIntDigits) (ex : Str) :
    NatAlgo.fr.validate U [bank, branch, account] ex =
      .ok (ex == fmt02 (97 - (ribNum (bank ++ branch ++ account) 0 * 100) % 97)) := by
  simp only [NatAlgo.validate_inherited U (n := .fr) (by decide) (by decide), NatAlgo.compute_fr,
    frCompute, frNumerify_val U bank 0 0 h1 (by omega) (by omega),
    frNumerify_val U branch 0 0 h2 (by omega) (by omega),
    frNumerify_val U account 0 0 h3 (by omega) (by omega), bind, Res.bind, pure, iso7064]
  -- modulo 97: 10^16·100 = 89, 10^11·100 = 15, 100 = 3
  have e : (ribNum (bank ++ branch ++ account) 0 * 100) % 97 =
      (89 * ribNum bank 0 + 15 * ribNum branch 0 + 3 * ribNum account 0) % 97 := by
    rw [ribNum_append, ribNum_append, ribNum_acc account, ribNum_acc branch, l2, l3]
    omega
  rw [e]

theorem it_validate_val {U : Unicode} (hU : U.WF) {cs : List Str}
    (h : cs.all allAlnum = true) (ex : Str) :
    NatAlgo.it.validate U cs ex = .ok (ex == [65 + cinSum (joinStrs cs) 0 % 26]) := by
  simp only [NatAlgo.validate_inherited U (n := .it) (by decide) (by decide), NatAlgo.compute_it,
    itCompute, itSum_val hU _ 0 (allAlnum_flatten h), bind, Res.bind, pure]

end SV
