/-
  The ISO 13616 rule set taken apart into `structureOk` and `checksumOk` (`Spec.IbanDefect`), and the
  checksum condition read as "the check digits are the computed ones"; what a well-formed table adds
  (`fits_facts`, `isoValid_assembled`: a country code, two digits and a fitting BBAN form a valid
  IBAN exactly when the digits are the computed ones).
-/
import SV.Spec.IbanDefect
import SV.Proofs.TableWF
import SV.Proofs.IbanCore
import SV.Proofs.Numerify
import SV.Proofs.Fits
namespace SV
open Spec

theorem isoValid_iff (T : Table) (c : Str) :
    isoValid T c = true ↔
      ∃ e, T.lookup (c.take 2) = some e ∧ c.length = e.bbanLength + 4 ∧
        isAsciiDigit (c.getD 2 0) = true ∧ isAsciiDigit (c.getD 3 0) = true ∧
        fits e (c.drop 4) = true ∧ checksumOk c = true := by
  unfold isoValid checksumOk
  cases T.lookup (c.take 2) with
  | none => simp
  | some e => simp [and_assoc]

theorem isoValid_eq_parts (T : Table) (c : Str) :
    isoValid T c = true ↔
      (∃ e, T.lookup (c.take 2) = some e ∧ c.length = e.bbanLength + 4) ∧
      structureOk T c = true ∧ checksumOk c = true := by
  unfold isoValid structureOk checksumOk
  cases hl : T.lookup (c.take 2) with
  | none => simp
  | some e =>
    simp only [Bool.and_eq_true, beq_iff_eq, decide_eq_true_eq, Option.some.injEq, exists_eq_left',
      and_assoc]

variable {T : Table}

theorem structureOk_cons (a b d1 d2 : Nat) (rest : Str) :
    structureOk T (a :: b :: d1 :: d2 :: rest) = true ↔
      ∃ e, T.lookup [a, b] = some e ∧ isAsciiDigit d1 = true ∧ isAsciiDigit d2 = true ∧
        fits e rest = true := by
  simp only [structureOk, List.take_succ_cons, List.take_zero, List.drop_succ_cons,
    List.drop_zero, List.getD_cons_succ, List.getD_cons_zero]
  cases T.lookup [a, b] <;> simp [and_assoc]

theorem structureOk_digits {c : Str} (h : structureOk T c = true) :
    isAsciiDigit (c.getD 2 0) = true ∧ isAsciiDigit (c.getD 3 0) = true := by
  unfold structureOk at h
  split at h
  · cases h
  · simp only [Bool.and_eq_true] at h; exact h.1

/-- The default of `getD` is no digit. -/
theorem length_of_structureOk {c : Str} (h : structureOk T c = true) : 4 ≤ c.length := by
  have h3 := (structureOk_digits h).2
  by_cases hl : 3 < c.length
  · exact hl
  · rw [List.getD_eq_getElem?_getD, List.getElem?_eq_none (by omega)] at h3
    cases h3

theorem checksumOk_cons {a b d1 d2 : Nat} {rest : Str} (h1 : isAsciiDigit d1 = true)
    (h2 : isAsciiDigit d2 = true) :
    checksumOk (a :: b :: d1 :: d2 :: rest) = true ↔
      (d1 - 48) * 10 + (d2 - 48) = checkDigits [a, b] rest := by
  simp only [checksumOk, checkDigits, ddVal, List.take_succ_cons, List.take_zero,
    List.drop_succ_cons, List.drop_zero, List.getD_cons_succ, List.getD_cons_zero,
    Bool.and_eq_true, beq_iff_eq, decide_eq_true_eq, and_assoc]
  rw [show rest ++ [a, b, d1, d2] = (rest ++ [a, b]) ++ [d1, d2] by simp, numVal_append,
    numVal_two_digits h1 h2, dd_iff]

theorem checkDigits_lt (cc b : Str) : checkDigits cc b < 100 := by
  unfold checkDigits; omega

/-- The second test alone decides: the computed pair always leaves remainder 1. -/
theorem checks_iff_checksumOk {c : Str} (h4 : 4 ≤ c.length)
    (hg2 : isAsciiDigit (c.getD 2 0) = true) (hg3 : isAsciiDigit (c.getD 3 0) = true) :
    (numVal (c.drop 4 ++ c.take 4) 0 % 97 = 1 ∧
      fmt02 (checkDigits (c.take 2) (c.drop 4)) = (c.take 4).drop 2) ↔
    checksumOk c = true := by
  obtain ⟨a, b, d1, d2, rest, rfl⟩ := list_ge4 h4
  simp only [List.getD_cons_succ, List.getD_cons_zero] at hg2 hg3
  rw [checksumOk_cons hg2 hg3]
  simp only [List.take_succ_cons, List.take_zero, List.drop_succ_cons, List.drop_zero,
    fmt02_eq_pair (checkDigits_lt _ _)]
  refine ⟨fun h => h.2.2.2, fun h => ⟨?_, hg2, hg3, h⟩⟩
  have := (checksumOk_cons hg2 hg3).mpr h
  simp only [checksumOk, Bool.and_eq_true, beq_iff_eq] at this
  exact this.1.1

theorem residue_of_valid {T : Table} {c : Str} (h : isoValid T c = true) :
    numVal (c.drop 4 ++ c.take 4) 0 % 97 = 1 := by
  obtain ⟨_, _, _, _, _, _, h⟩ := (isoValid_iff T c).mp h
  simp only [checksumOk, Bool.and_eq_true, beq_iff_eq] at h
  exact h.1.1

/-- Every detection theorem of C03 is this plus one fact of arithmetic. -/
theorem invalid_of_residue_ne {T : Table} {c c' : Str} (hv : isoValid T c = true)
    (h : numVal (c'.drop 4 ++ c'.take 4) 0 % 97 ≠ numVal (c.drop 4 ++ c.take 4) 0 % 97) :
    isoValid T c' = false :=
  Bool.eq_false_iff.mpr fun hv' => h (by rw [residue_of_valid hv', residue_of_valid hv])

theorem isoValid_of_lookup {c : Str} {e : Country} (hv : isoValid T c = true)
    (hl : T.lookup (c.take 2) = some e) : c.length = e.bbanLength + 4 ∧ fits e (c.drop 4) = true := by
  obtain ⟨e', hl', hlen, -, -, hfit, -⟩ := (isoValid_iff T c).mp hv
  cases hl.symm.trans hl'
  exact ⟨hlen, hfit⟩

theorem Country.WF.fits_length {e : Country} (hW : e.WF) {b : Str} (hf : fits e b = true) :
    b.length = e.bbanLength := by
  obtain ⟨l, hps, hexp⟩ := hW.parse
  rw [fitsClasses_length (fits_of_parse hps b ▸ hf), hexp]

theorem Country.WF.numLen_le {U : Unicode} (hU : U.WF) {e : Country} (hW : e.WF) {s : Str}
    (h : s.length ≤ e.ibanLength) : numLen s ≤ U.maxIntDigits := by
  have := SV.numLen_le s; have := hW.maxLen; have := hU.maxInt
  omega

/-- Decidable: no structure string of the table has a blank (`e`) position. -/
def Table.alnumB (T : Table) : Bool :=
  T.all fun e => match parseSpec e.bbanSpec with
    | some l => clsAlnum (expandSpec l)
    | none => false

theorem Table.clsAlnum_of_alnumB {T : Table} (hB : T.alnumB = true) {e : Country} (he : e ∈ T)
    {l : List (Nat × SClass)} (hps : parseSpec e.bbanSpec = some l) : clsAlnum (expandSpec l) = true := by
  have := List.all_eq_true.mp hB e he
  rwa [hps] at this

theorem fits_facts {T : Table} (hT : T.WF) (hB : T.alnumB = true) {cc b : Str} {e : Country}
    (hl : T.lookup cc = some e) (hf : fits e b = true) :
    b.length = e.bbanLength ∧ allAlnum b = true := by
  obtain ⟨l, hps, _⟩ := (hT.of_lookup hl).parse
  exact ⟨(hT.of_lookup hl).fits_length hf,
    alnum_of_fits (fits_of_parse hps b ▸ hf) (Table.clsAlnum_of_alnumB hB (Table.lookup_mem hl).1 hps)⟩

theorem isoValid_assembled (hT : T.WF) {cc b : Str} {e : Country}
    (hl : T.lookup cc = some e) (hf : fits e b = true) {x y : Nat}
    (hx : isAsciiDigit x = true) (hy : isAsciiDigit y = true) :
    isoValid T (cc ++ [x, y] ++ b) = true ↔
      (x - 48) * 10 + (y - 48) = checkDigits cc b := by
  obtain ⟨a', b', rfl, _, _⟩ := hT.key_of_lookup hl
  have := (hT.of_lookup hl).fits_length hf
  simp [isoValid_eq_parts, structureOk_cons, checksumOk_cons hx hy, hl, hx, hy, hf, this]

end SV
