/-
  What the weighted-modulus engine of `SV.Model.Germany` computes on an account of ten ASCII digits,
  for arbitrary class parameters: one evaluation lemma per Python hook, and which published rule a
  (modulus, minuend, `reconcile`) combination is.  The per-method theorems of C07 instantiate these.
-/
import SV.Proofs.Germany
import SV.Spec.Germany
import SV.Proofs.Str
namespace SV
open Spec DEM

def digs (ds : List Nat) : Str := ds.map (48 + ·)

theorem acct_eq_digs (d1 d2 d3 d4 d5 d6 d7 d8 d9 d10 : Nat) :
    acct d1 d2 d3 d4 d5 d6 d7 d8 d9 d10 = digs [d1, d2, d3, d4, d5, d6, d7, d8, d9, d10] := rfl

theorem acct_digits_lt {d1 d2 d3 d4 d5 d6 d7 d8 d9 d10 : Nat}
    (h1 : d1 < 10) (h2 : d2 < 10) (h3 : d3 < 10) (h4 : d4 < 10) (h5 : d5 < 10) (h6 : d6 < 10)
    (h7 : d7 < 10) (h8 : d8 < 10) (h9 : d9 < 10) (h10 : d10 < 10) :
    ∀ d ∈ [d1, d2, d3, d4, d5, d6, d7, d8, d9, d10], d < 10 := by
  simp [*]

@[simp] theorem digs_length (ds : List Nat) : (digs ds).length = ds.length := List.length_map ..

theorem digs_take (ds : List Nat) (n : Nat) : (digs ds).take n = digs (ds.take n) := by
  simp [digs, List.map_take]

theorem digs_drop (ds : List Nat) (n : Nat) : (digs ds).drop n = digs (ds.drop n) := by
  simp [digs, List.map_drop]

theorem digs_reverse (ds : List Nat) : (digs ds).reverse = digs ds.reverse := by
  simp [digs, List.map_reverse]

theorem digs_slice (ds : List Nat) (a b : Nat) : slice (digs ds) a b = digs (slice ds a b) := by
  simp [slice, digs_take, digs_drop]

theorem getElem?_digs {ds : List Nat} {k : Nat} (h : k < ds.length) :
    (digs ds)[k]? = some (48 + ds.getD k 0) := by
  simp [digs, h]

theorem pyIndex_digs {ds : List Nat} {k : Nat} (h : k < ds.length) :
    pyIndex (digs ds) (k : Int) = .ok (48 + ds.getD k 0) := by
  have : ¬ ((k : Int) < 0) := by omega
  simp [pyIndex, this, getElem?_digs h]

/-- Weights first, as `Spec.dot`; the summand takes the digit first. -/
def wsumBy (f : Nat → Nat → Nat) : List Nat → List Nat → Nat
  | w :: ws, d :: ds => f d w + wsumBy f ws ds
  | _, _ => 0

/-- The four sums of `SV.Spec.Germany` are one fold with four summands. -/
theorem eq_wsumBy {g : List Nat → List Nat → Nat} {f : Nat → Nat → Nat}
    (hc : ∀ w ws d ds, g (w :: ws) (d :: ds) = f d w + g ws ds) (hn : ∀ ds, g [] ds = 0)
    (hn' : ∀ w ws, g (w :: ws) [] = 0) : ∀ ws ds, g ws ds = wsumBy f ws ds
  | [], ds => hn ds
  | w :: ws, [] => hn' w ws
  | w :: ws, d :: ds => (hc w ws d ds).trans (congrArg (f d w + ·) (eq_wsumBy hc hn hn' ws ds))

theorem dot_eq_wsumBy (ws ds : List Nat) : dot ws ds = wsumBy (fun d w => d * w) ws ds :=
  eq_wsumBy (fun _ _ _ _ => rfl) (fun _ => rfl) (fun _ _ => rfl) ws ds

theorem dotQ_eq_wsumBy (ws ds : List Nat) : dotQ ws ds = wsumBy (fun d w => digitSum (d * w)) ws ds :=
  eq_wsumBy (fun _ _ _ _ => rfl) (fun _ => rfl) (fun _ _ => rfl) ws ds

theorem dotM10_eq_wsumBy (ws ds : List Nat) : dotM10 ws ds = wsumBy (fun d w => d * w % 10) ws ds :=
  eq_wsumBy (fun _ _ _ _ => rfl) (fun _ => rfl) (fun _ _ => rfl) ws ds

theorem dot24_eq_wsumBy (ws ds : List Nat) : dot24 ws ds = wsumBy (fun d w => (d * w + w) % 11) ws ds :=
  eq_wsumBy (fun _ _ _ _ => rfl) (fun _ => rfl) (fun _ _ => rfl) ws ds

theorem wsumBy_le {f : Nat → Nat → Nat} {B : Nat} : ∀ {ws xs : List Nat},
    (∀ d ∈ xs, ∀ w ∈ ws, f d w ≤ B) → wsumBy f ws xs ≤ B * xs.length
  | [], _, _ => by simp [wsumBy]
  | _ :: _, [], _ => by simp [wsumBy]
  | w :: ws, d :: xs, h => by
    have h1 := h d List.mem_cons_self w List.mem_cons_self
    have h2 := wsumBy_le (f := f) (B := B) (ws := ws) (xs := xs) fun d hd w hw =>
      h d (List.mem_cons_of_mem _ hd) w (List.mem_cons_of_mem _ hw)
    simp only [wsumBy, List.length_cons, Nat.mul_succ]
    omega

theorem digitSum_le9 : ∀ n, n < 19 → digitSum n ≤ 9 := by decide +kernel

theorem wmWeightedSum_digs {U : Unicode} (hU : U.WF) {P : DEParams} {f : Nat → Nat → Nat}
    (hs : ∀ d w, summand P.summand d w = .ok (f d w)) :
    ∀ (ds ws : List Nat), (∀ d ∈ ds, d < 10) →
      wmWeightedSum U P (digs ds) ws = .ok (wsumBy f ws ds)
  | [], _, _ => by simp [digs, wmWeightedSum, wsumBy]
  | _ :: _, [], _ => by simp [digs, wmWeightedSum, wsumBy]
  | d :: ds, w :: ws, h => by
    have ih := wmWeightedSum_digs hU hs ds ws (fun x hx => h x (List.mem_cons_of_mem _ hx))
    simp only [digs, List.map_cons] at ih ⊢
    simp [wmWeightedSum, wsumBy, intChar_digit hU (h d List.mem_cons_self), hs, ih]

/-- `WeightedModulus.get_digits` on ten digits; `hl`, `h1`, `h2`, `h3` are its `assert`s. -/
theorem wmGetDigits_digs {P : DEParams} {ds xs : List Nat} {pos : Positions}
    (hp : getPositions P P.getPositions (digs ds) = .ok pos := by rfl)
    (hl : ds.length = 10 := by rfl) (h1 : 1 ≤ pos.start := by decide)
    (h2 : pos.start - 1 ≤ pos.stop := by decide) (h3 : pos.stop ≤ 10 := by decide)
    (hx : (if P.reverse then (slice ds (pos.start - 1) pos.stop).reverse
           else slice ds (pos.start - 1) pos.stop) = xs := by rfl) :
    wmGetDigits P (digs ds) = .ok (digs xs) := by
  have e1 : ¬ pos.start = 0 := by omega
  have e2 : ¬ 10 < pos.start - 1 := by omega
  have e3 : ¬ pos.stop < pos.start - 1 := by omega
  have e4 : ¬ 10 < pos.stop := by omega
  simp only [wmGetDigits, hp, Res.ok_bind, digs_length, hl, ne_eq, not_true_eq_false, ↓reduceIte,
    e1, e2, e3, e4, decide_false, Bool.or_self, Bool.false_eq_true, Res.pure_eq, digs_slice, ← hx]
  split <;> simp [digs_reverse]

/-- `WeightedModulus.compute_weighted_sum` on digit characters. -/
theorem weightedSumHook_wm {U : Unicode} (hU : U.WF) {P : DEParams} {f : Nat → Nat → Nat}
    {xs ws : List Nat} {t : List WSumTag}
    (hs : ∀ d w, summand P.summand d w = .ok (f d w) := by intros; rfl)
    (hx : ∀ d ∈ xs, d < 10 := by simp [*])
    (hw : cycleWeights P.weights xs.length = ws := by
      simp only [List.length_cons, List.length_nil, Nat.reduceAdd]; decide) :
    weightedSumHook U P (.wm :: t) (digs xs) = .ok (natToInt (wsumBy f ws xs)) := by
  simp [weightedSumHook, hw, wmWeightedSum_digs hU hs xs ws hx, natToInt]

/-- `Algorithm17.compute_weighted_sum`: one less than the inherited sum. -/
theorem weightedSumHook_a17 {U : Unicode} {P : DEParams} {t : List WSumTag} {xs : Str} {W : Int}
    (h : weightedSumHook U P t xs = .ok W) : weightedSumHook U P (.a17 :: t) xs = .ok (W - 1) := by
  simp only [weightedSumHook, h, Res.ok_bind, Res.pure_eq]

/-- `Algorithm21.compute_remainder` on a non-negative sum is `Spec.crossReduce`. -/
theorem reduceDigits_natCast : ∀ f m : Nat, reduceDigits f (m : Int) = (crossReduce f m : Int)
  | 0, _ => rfl
  | f + 1, m => by
    simp only [reduceDigits, crossReduce, Int.toNat_natCast]
    by_cases h : 10 ≤ m
    · rw [if_pos h, if_pos (by omega), reduceDigits_natCast f]
    · rw [if_neg h, if_neg (by omega)]

theorem remainderHook_a21 (P : DEParams) (t : List RemainderTag) (S : Nat) :
    remainderHook P (.a21 :: t) (natToInt S) = .ok ((crossReduce S S : Nat) : Int) := by
  simp only [remainderHook, natToInt, Int.toNat_natCast, reduceDigits_natCast]

theorem reconcile_fst : ∀ (tags : List ReconcileTag) (c : Int) (s : Scratch),
    (reconcile tags c s).1 = s := by
  intro tags c s
  -- one case per override in the chain (wm, 02, 11 falling through to the rest, 76, none left);
  -- each branch of each is `pure`, `fail`, `crash` or the recursive call, none of which sets the cell
  fun_induction reconcile tags c <;>
    simp_all [pure, bind, DEM.pure', DEM.bind', getRem, DEM.fail, DEM.crash] <;>
    (repeat' split) <;> rfl

theorem reconcile_wm (t : List ReconcileTag) (c : Int) (s : Scratch) :
    (reconcile (.wm :: t) c s).2 = .ok (if c ≥ 10 then 0 else c) := rfl

/-- The `checksum` that `WeightedModulus.compute` hands to `reconcile`. -/
def check : Option Nat → Int → Int
  | none, r => r
  | some m, r => (m : Int) - r

/-- `WeightedModulus.compute`, given what the four hooks before `reconcile` return. -/
theorem wmCompute_eval {U : Unicode} {P : DEParams} {a a' ds : Str} {w r : Int} {sc : Scratch}
    (ha : adjustInput P.adjustInput a = .ok a' := by rfl)
    (hr : remainderHook P P.remainder w = .ok r := by rfl)
    (hg : getDigits U P P.getDigits a' = .ok ds)
    (hw : weightedSumHook U P P.weightedSum ds = .ok w) :
    wmCompute U P [a] sc =
      (⟨r⟩, (reconcile P.reconcile (check P.minuend r) ⟨r⟩).2.bind fun c => .ok (intToStr c)) := by
  -- what is left after the four hooks is `reconcile` started on the cell `⟨r⟩`; it returns that
  -- cell (`reconcile_fst`), whichever of value, error, exception comes with it
  cases hm : P.minuend <;>
    simp only [wmCompute, bind, pure, DEM.bind', DEM.lift, ha, hg, hw, hr, DEM.setRem, DEM.getRem,
      DEM.pure', check, hm] <;>
  · generalize hq : reconcile P.reconcile _ _ = q
    have h1 : q.1 = ⟨r⟩ := by rw [← hq]; exact reconcile_fst ..
    rcases q with ⟨s', x⟩
    cases x <;> simp_all [Res.bind]

/-- The comparison `check_digit == account_code[k - 1]` after `reconcile`, as a pure outcome:
    `c` is the candidate handed to `reconcile`, `r` the remainder in the scratch cell, `pz` the
    check digit of the account. -/
def wmVerdict (tags : List ReconcileTag) (c r : Int) (pz : Nat) : Res Bool :=
  (reconcile tags c ⟨r⟩).2.bind fun c' => .ok (intToStr c' == [48 + pz])

/-- `WeightedModulus.validate`, given what `adjust_input`, `compute` and `get_positions` return. -/
theorem validateWm_eval {U : Unicode} {P : DEParams} {comp : List Str → DEM Str}
    {a a' : Str} {pos : Positions} {sc sc' : Scratch} {res : Res Str} (t : List ValidateTag)
    (ha : adjustInput P.adjustInput a = .ok a') (hc : comp [a] sc = (sc', res))
    (hp : getPositions P P.getPositions a' = .ok pos) :
    validateHook0 U P comp (.wm :: t) [a] sc =
      (sc', res.bind fun cd => (pyIndex a' ((pos.checkDigit : Int) - 1)).bind fun c =>
        .ok (cd == [c])) := by
  simp only [validateHook0, bind, pure, DEM.bind', DEM.lift, ha, hc, hp, cmpCheck, DEM.pure']
  cases res <;> simp only [Res.bind]
  cases pyIndex a' ((pos.checkDigit : Int) - 1) <;> rfl

theorem computeM_wm {U : Unicode} {P : DEParams} {t : List ComputeTag} (h : P.compute = .wm :: t) :
    P.computeM U = wmCompute U P := by
  funext cs; simp [DEParams.computeM, h, computeHook0]

theorem validateM_eq {U : Unicode} {P : DEParams} {tags : List ValidateTag} (h : P.validate = tags)
    (h91 : tags.head? ≠ some .a91) (cs : List Str) :
    P.validateM U cs = validateHook0 U P (P.computeM U) tags cs := by
  subst h; unfold DEParams.validateM; split <;> simp_all

/-- The scratch cell ends up holding `r`: `Algorithm16.validate` and `Algorithm25.validate` read
    it. -/
theorem validateWm_digs {U : Unicode} {P : DEParams} {comp : List Str → DEM Str}
    {ds ds' : List Nat} {xs : Str} {pos : Positions} {W r : Int} (sc : Scratch) (t : List ValidateTag)
    (hcomp : comp [digs ds] sc = wmCompute U P [digs ds] sc)
    (ha : adjustInput P.adjustInput (digs ds) = .ok (digs ds'))
    (hg : getDigits U P P.getDigits (digs ds') = .ok xs)
    (hW : weightedSumHook U P P.weightedSum xs = .ok W)
    (hr : remainderHook P P.remainder W = .ok r)
    (hp : getPositions P P.getPositions (digs ds') = .ok pos)
    (hk : 1 ≤ pos.checkDigit ∧ pos.checkDigit ≤ ds'.length) :
    validateHook0 U P comp (.wm :: t) [digs ds] sc =
      (⟨r⟩, wmVerdict P.reconcile (check P.minuend r) r (ds'.getD (pos.checkDigit - 1) 0)) := by
  rw [validateWm_eval t ha (hcomp.trans (wmCompute_eval ha hr hg hW)) hp]
  have e : (pos.checkDigit : Int) - 1 = ((pos.checkDigit - 1 : Nat) : Int) := by omega
  rw [e, pyIndex_digs (by omega)]
  unfold wmVerdict
  cases (reconcile P.reconcile (check P.minuend r) ⟨r⟩).2 <;> rfl

/-- `validateWm_digs` followed by a rule lemma `hv`.  The binders stand in the order in which a
    concrete class determines the unknowns: the rule first (it fixes `tags`, `c`, `r`, `pz` from
    the expected outcome), then the hooks.  What a class inherits from `WeightedModulus` holds by
    evaluation (the defaults); an instance names the hooks it overrides. -/
theorem validateWm_verdict {U : Unicode} {P : DEParams} {comp : List Str → DEM Str}
    {ds ds' : List Nat} {xs : Str} {pos : Positions} {W r c : Int} {tags : List ReconcileTag}
    {pz : Nat} {b : Bool} {t : List ValidateTag} {sc : Scratch}
    (hv : deVerdict (wmVerdict tags c r pz) = true ∧ deAccepts (wmVerdict tags c r pz) = b)
    (hcomp : comp [digs ds] sc = wmCompute U P [digs ds] sc := by rfl)
    (ha : adjustInput P.adjustInput (digs ds) = .ok (digs ds') := by rfl)
    (hp : getPositions P P.getPositions (digs ds') = .ok pos := by rfl)
    (hl : ds'.length = 10 := by rfl)
    (hk : 1 ≤ pos.checkDigit ∧ pos.checkDigit ≤ 10 := by decide)
    (hz : ds'.getD (pos.checkDigit - 1) 0 = pz := by rfl)
    (hr : remainderHook P P.remainder W = .ok r := by rfl)
    (hrec : P.reconcile = tags := by rfl) (hc : check P.minuend r = c := by rfl)
    (hg : getDigits U P P.getDigits (digs ds') = .ok xs := by exact wmGetDigits_digs)
    (hW : weightedSumHook U P P.weightedSum xs = .ok W) :
    deVerdict (validateHook0 U P comp (.wm :: t) [digs ds] sc).2 = true ∧
    deAccepts (validateHook0 U P comp (.wm :: t) [digs ds] sc).2 = b := by
  rw [validateWm_digs sc t hcomp ha hg hW hr hp (hl ▸ hk), hrec, hc, hz]; exact hv

/-- `P` inherits every hook that `WeightedModulus.compute` calls, except `compute_summand` (which
    computes `f`) and `reconcile`. -/
structure DEParams.Core (P : DEParams) (f : Nat → Nat → Nat) : Prop where
  adjustInput : P.adjustInput = [.wm]
  getDigits : P.getDigits = [.wm]
  getPositions : P.getPositions = [.wm]
  weightedSum : P.weightedSum = [.wm]
  summand : ∀ d w, SV.summand P.summand d w = .ok (f d w)
  remainder : P.remainder = [.wm]
  modulus : P.modulus ≠ 0
  start : 1 ≤ P.positions.start
  stop : P.positions.start - 1 ≤ P.positions.stop ∧ P.positions.stop ≤ 10
  checkDigit : 1 ≤ P.positions.checkDigit ∧ P.positions.checkDigit ≤ 10

/-- `Core` for a concrete class: everything but the summand is decided. -/
theorem DEParams.Core.of {P : DEParams} {f : Nat → Nat → Nat}
    (h : P.adjustInput = [.wm] ∧ P.getDigits = [.wm] ∧ P.getPositions = [.wm] ∧
      P.weightedSum = [.wm] ∧ P.remainder = [.wm] ∧ P.modulus ≠ 0 ∧ 1 ≤ P.positions.start ∧
      P.positions.start - 1 ≤ P.positions.stop ∧ P.positions.stop ≤ 10 ∧
      1 ≤ P.positions.checkDigit ∧ P.positions.checkDigit ≤ 10)
    (hs : ∀ d w, SV.summand P.summand d w = .ok (f d w)) : P.Core f :=
  let ⟨adjustInput, getDigits, getPositions, weightedSum, remainder, modulus, start, stopLo, stopHi,
    checkDigit⟩ := h
  ⟨adjustInput, getDigits, getPositions, weightedSum, hs, remainder, modulus, start,
    ⟨stopLo, stopHi⟩, checkDigit⟩

theorem getD_lt10 {ds : List Nat} (hd : ∀ d ∈ ds, d < 10) (k : Nat) : ds.getD k 0 < 10 := by
  rw [List.getD_eq_getElem?_getD]
  cases h : ds[k]? with
  | none => simp
  | some d => exact hd d (List.mem_of_getElem? h)

/-- `validate` of a class whose `compute` is `WeightedModulus.compute` and whose `validate` chain is
    `tag :: rest`. -/
theorem validateM_wm {U : Unicode} {P : DEParams} (tag : ValidateTag) (rest : List ValidateTag)
    {t : List ComputeTag} {cs : List Str} (hv : P.validate = tag :: rest := by rfl)
    (hc : P.compute = .wm :: t := by rfl) (h91 : tag ≠ .a91 := by decide) :
    P.validateM U cs = validateHook0 U P (wmCompute U P) (tag :: rest) cs := by
  rw [validateM_eq hv fun h => h91 (Option.some.inj h), computeM_wm hc]

section
variable {U : Unicode} (hU : U.WF) {P : DEParams} {f : Nat → Nat → Nat} (hP : P.Core f)
  {comp : List Str → DEM Str} (t : List ValidateTag) {ds xs ws : List Nat} (sc : Scratch)
  (hcomp : comp [digs ds] sc = wmCompute U P [digs ds] sc)
  (hl : ds.length = 10) (hd : ∀ d ∈ ds, d < 10)
  (hx : (if P.reverse then (slice ds (P.positions.start - 1) P.positions.stop).reverse
         else slice ds (P.positions.start - 1) P.positions.stop) = xs)
  (hw : cycleWeights P.weights (P.positions.stop - (P.positions.start - 1)) = ws)
include hU hP hcomp hl hd hx hw

omit hcomp in
/-- `xs` are the digits the method sums over, `ws` the weights it pairs them with; `hx`, `hw` hold
    by evaluation for a concrete class. -/
theorem wmHooks_core :
    adjustInput P.adjustInput (digs ds) = .ok (digs ds) ∧
    getDigits U P P.getDigits (digs ds) = .ok (digs xs) ∧
    weightedSumHook U P P.weightedSum (digs xs) = .ok (natToInt (wsumBy f ws xs)) ∧
    remainderHook P P.remainder (natToInt (wsumBy f ws xs)) =
      .ok (natToInt (wsumBy f ws xs) % P.modulus) ∧
    getPositions P P.getPositions (digs ds) = .ok P.positions := by
  have hp : getPositions P P.getPositions (digs ds) = .ok P.positions := by
    rw [hP.getPositions]; rfl
  have hxs : ∀ d ∈ xs, d < 10 := by
    intro d h; subst hx; split at h
    · exact hd d (slice_mem (List.mem_reverse.mp h))
    · exact hd d (slice_mem h)
  have hn : xs.length = P.positions.stop - (P.positions.start - 1) := by
    subst hx; split <;> simp [slice_length (hl ▸ hP.stop.2)]
  refine ⟨by rw [hP.adjustInput]; rfl, ?_, ?_, ?_, hp⟩
  · rw [hP.getDigits]; exact wmGetDigits_digs hp hl hP.start hP.stop.1 hP.stop.2 hx
  · rw [hP.weightedSum]; exact weightedSumHook_wm hU (hs := hP.summand) (hx := hxs) (hw := hn ▸ hw)
  · rw [hP.remainder]; simp [remainderHook, hP.modulus]

theorem validateWm_core :
    validateHook0 U P comp (.wm :: t) [digs ds] sc =
      (⟨natToInt (wsumBy f ws xs) % P.modulus⟩,
       wmVerdict P.reconcile (check P.minuend (natToInt (wsumBy f ws xs) % P.modulus))
         (natToInt (wsumBy f ws xs) % P.modulus) (ds.getD (P.positions.checkDigit - 1) 0)) :=
  have ⟨ha, hg, hW, hr, hp⟩ := wmHooks_core hU hP hl hd hx hw
  validateWm_digs sc t hcomp ha hg hW hr hp (hl ▸ hP.checkDigit)

end

/-! Which published rule a (modulus, minuend, `reconcile`) combination implements.

  `wmVerdict` at the remainder of a sum `S` depends on `S` only through `S % m`, and on the check
  digit: each lemma is a table of `m × 10` entries (`de_close`).  Where the combination never
  raises, the statement is `… = .ok (rule …)`; `verdict_of_eq_ok` turns it into the two claims of
  the method theorems. -/

theorem verdict_of_eq_ok {r : Res Bool} {b : Bool} (h : r = .ok b) :
    deVerdict r = true ∧ deAccepts r = b := h ▸ ⟨rfl, rfl⟩

theorem wmVerdict_rule10 (S pz : Nat) (h : pz < 10) :
    wmVerdict [.wm] (10 - natToInt S % 10) (natToInt S % 10) pz = .ok (rule10 S pz) := by
  de_close 10 rule10 S pz h

theorem wmVerdict_rule06 (S pz : Nat) (h : pz < 10) :
    wmVerdict [.wm] (11 - natToInt S % 11) (natToInt S % 11) pz = .ok (rule06 S pz) := by
  de_close 11 rule06 S pz h

theorem wmVerdict_rule11 (S pz : Nat) (h : pz < 10) :
    wmVerdict [.a11, .wm] (11 - natToInt S % 11) (natToInt S % 11) pz = .ok (rule11 S pz) := by
  de_close 11 rule11 S pz h

/-- Remainder 1 raises `InvalidBBANChecksum` (`Algorithm02.reconcile`). -/
theorem wmVerdict_rule02 (S pz : Nat) (h : pz < 10) :
    deVerdict (wmVerdict [.a02, .wm] (11 - natToInt S % 11) (natToInt S % 11) pz) = true ∧
    deAccepts (wmVerdict [.a02, .wm] (11 - natToInt S % 11) (natToInt S % 11) pz) = rule02 S pz := by
  de_close 11 rule02 S pz h

/-- Method 76: no minuend; remainder 10 raises (`Algorithm76.reconcile`). -/
theorem wmVerdict_rule76 (S pz : Nat) (h : pz < 10) :
    deVerdict (wmVerdict [.a76, .wm] (natToInt S % 11) (natToInt S % 11) pz) = true ∧
    deAccepts (wmVerdict [.a76, .wm] (natToInt S % 11) (natToInt S % 11) pz) = rule76 S pz := by
  de_close 11 rule76 S pz h

theorem wmVerdict_rule17 (S pz : Nat) (h : pz < 10) :
    wmVerdict [.wm] (10 - (natToInt S - 1) % 11) ((natToInt S - 1) % 11) pz = .ok (rule17 S pz) := by
  have k : ((S : Int) - 1) % 11 = ((S : Int) % 11 - 1) % 11 := by omega
  simp only [natToInt, rule17, k]
  de_close 11 rule17 S pz h

/-- Method 25 on top of the 06 combination: what `Algorithm25.validate` adds (`validate_a25`),
    with the second character `48 + d2` already looked up. -/
theorem wmVerdict_rule25 (S d2 pz : Nat) (h : pz < 10) (h2 : d2 < 10) :
    ((wmVerdict [.wm] (11 - natToInt S % 11) (natToInt S % 11) pz).bind fun result =>
      if natToInt S % 11 = 1 then
        (Res.ok (48 + d2)).bind fun c => .ok (if c ≠ 56 && c ≠ 57 then false else result)
      else .ok result) = .ok (rule25 S d2 pz) := by
  de_close2 11 rule25 S pz h d2 h2

/-- Method 16 on top of the 06 combination: what `Algorithm16.validate` does (`validate_a16`) with
    the computed check digit, the characters `48 + b` before the check digit and `48 + pz` at it. -/
theorem wmVerdict_rule16 (S b pz : Nat) (h : pz < 10) (hb : b < 10) :
    (((reconcile [.wm] (11 - natToInt S % 11) ⟨natToInt S % 11⟩).2.bind fun c =>
        Res.ok (intToStr c)).bind fun cd =>
      if natToInt S % 11 = 1 then
        (Res.ok (48 + b)).bind fun x => (Res.ok (48 + pz)).bind fun y =>
          .ok (if x = y then true else cd == [y])
      else (Res.ok (48 + pz)).bind fun y => .ok (cd == [y])) = .ok (rule16 S b pz) := by
  -- `rule16 S b pz` is `(S % 11 = 1 ∧ b = pz) || rule06 S pz`; the sweep is over `S % 11`, `pz`, `b`
  simp only [rule16]
  de_close2 11 rule06 S pz h b hb

/-- Comparing the text of a small integer with the check digit character is comparing numbers
    (`cmp_digit`). -/
theorem wmVerdict_ok {tags : List ReconcileTag} {c r c' : Int} {pz : Nat}
    (h : (reconcile tags c ⟨r⟩).2 = .ok c') (h1 : -30 ≤ c') (h2 : c' < 30) (hpz : pz < 10) :
    wmVerdict tags c r pz = .ok (decide (c' = pz)) := by
  rw [wmVerdict, h, Res.bind, cmp_digit h1 h2 hpz]

/-- Modulus 10 without minuend: method 24. -/
theorem wmVerdict_mod10 (S pz : Nat) (h : pz < 10) :
    wmVerdict [.wm] (natToInt S % 10) (natToInt S % 10) pz = .ok (pz == S % 10) := by
  unfold natToInt
  rw [wmVerdict_ok (reconcile_wm ..) (by split <;> omega) (by split <;> omega) h]
  congr 1
  rw [Bool.eq_iff_iff]; simp only [decide_eq_true_eq, beq_iff_eq]
  split <;> omega

/-- Method 21: the remainder is the repeated cross sum, one digit for the sums that occur (the
    sum of nine cross sums is below 82). -/
theorem wmVerdict_rule21 (S pz : Nat) (h : pz < 10) (hS : S < 82) :
    wmVerdict [.wm] (10 - ((crossReduce S S : Nat) : Int)) (crossReduce S S : Nat) pz =
      .ok (rule21 S pz) := by
  have hR : crossReduce S S < 10 := (by decide : ∀ S < 82, crossReduce S S < 10) S hS
  unfold rule21
  generalize crossReduce S S = R at hR ⊢
  rw [wmVerdict_ok (reconcile_wm ..) (by split <;> omega) (by split <;> omega) h]
  congr 1
  rw [Bool.eq_iff_iff]; simp only [decide_eq_true_eq, beq_iff_eq]
  split <;> omega

/-- `int(account_code)` of digit characters is the number they spell. -/
theorem pyIntStr_digs {U : Unicode} (hU : U.WF) : ∀ (ds : List Nat) (v : Nat) (seen : Bool),
    (∀ d ∈ ds, d < 10) → (ds ≠ [] ∨ seen = true) → pyIntStr U (digs ds) v seen = .ok (num ds v)
  | [], v, seen, _, h => by simp_all [digs, pyIntStr, num]
  | d :: ds, v, _, hd, _ => by
    have ih := pyIntStr_digs hU ds (v * 10 + d) true
      (fun x hx => hd x (List.mem_cons_of_mem _ hx)) (Or.inr rfl)
    simp only [digs, List.map_cons] at ih ⊢
    simp [pyIntStr, num, intChar_digit hU (hd d List.mem_cons_self), ih]

theorem computeM_eq {U : Unicode} {P : DEParams} {tags : List ComputeTag} (h : P.compute = tags)
    (h91 : tags.head? ≠ some .a91) (cs : List Str) :
    P.computeM U cs = computeHook0 U P tags cs := by
  subst h; unfold DEParams.computeM; split <;> simp_all

/-- `digits.lstrip("0")` of `Algorithm24.get_digits` is `dropZeros` of `Spec.de24`. -/
theorem lstrip0_digs : ∀ ds : List Nat, lstrip0 (digs ds) = digs (dropZeros ds)
  | [] => rfl
  | d :: ds => by
    have ih := lstrip0_digs ds
    simp only [digs, List.map_cons, lstrip0, dropZeros] at ih ⊢
    by_cases h : d = 0
    · subst h; simpa using ih
    · simp [h]

theorem dropZeros_mem {x : Nat} : ∀ {ds : List Nat}, x ∈ dropZeros ds → x ∈ ds
  | [], h => h
  | d :: ds, h => by
    unfold dropZeros at h
    split at h
    · exact List.mem_cons_of_mem _ (dropZeros_mem h)
    · exact h

theorem dropZeros_length : ∀ ds : List Nat, (dropZeros ds).length ≤ ds.length
  | [] => Nat.le_refl _
  | d :: ds => by
    unfold dropZeros
    split
    · exact Nat.le_succ_of_le (dropZeros_length ds)
    · exact Nat.le_refl _

/-- `Algorithm24.get_digits` on top of a chain that returns the digits `d1 :: r`. -/
theorem getDigits_a24 {U : Unicode} (hU : U.WF) {P : DEParams} {rest : List DigitsTag} {a : Str}
    {d1 : Nat} {r : List Nat} (h1 : d1 < 10) (h : getDigits U P rest a = .ok (digs (d1 :: r))) :
    getDigits U P (.a24 :: rest) a =
      .ok (digs (dropZeros (if d1 = 3 ∨ d1 = 4 ∨ d1 = 5 ∨ d1 = 6 then r
                            else if d1 = 9 then r.drop 2 else d1 :: r))) := by
  simp only [getDigits, h, Res.ok_bind, digs, List.map_cons, intChar_digit hU h1, Res.pure_eq,
    Bool.or_eq_true, decide_eq_true_eq]
  have e : ((d1 = 3 ∨ d1 = 4) ∨ d1 = 5) ∨ d1 = 6 ↔ d1 = 3 ∨ d1 = 4 ∨ d1 = 5 ∨ d1 = 6 := by omega
  rw [← digs, ← digs, ← lstrip0_digs]
  simp only [e]
  split
  · simp [digs]
  · split <;> simp [digs, List.map_drop]

theorem wsumBy_take (f : Nat → Nat → Nat) : ∀ ws ds : List Nat,
    wsumBy f ws ds = wsumBy f (ws.take ds.length) ds
  | [], _ => by simp [wsumBy]
  | _ :: _, [] => by simp [wsumBy]
  | w :: ws, d :: ds => by simp only [List.length_cons, List.take_succ_cons, wsumBy, ← wsumBy_take f ws ds]

theorem cycleWeights_take (w : List Nat) {m n : Nat} (h : m ≤ n) :
    (cycleWeights w n).take m = cycleWeights w m := by
  unfold cycleWeights
  split
  · simp
  · rw [← List.map_take, List.take_range, Nat.min_eq_left h]

theorem dropZeros_prefix : ∀ ds : List Nat, ∃ k, ds = List.replicate k 0 ++ dropZeros ds
  | [] => ⟨0, rfl⟩
  | d :: ds => by
    unfold dropZeros
    split
    · obtain ⟨k, hk⟩ := dropZeros_prefix ds
      rename_i h; subst h
      exact ⟨k + 1, by rw [List.replicate_succ, List.cons_append, ← hk]⟩
    · exact ⟨0, rfl⟩

theorem wsumBy_zeros {f : Nat → Nat → Nat} (hf : ∀ w, f 0 w = 0) :
    ∀ (ws : List Nat) (k : Nat), wsumBy f ws (List.replicate k 0) = 0
  | [], _ => by simp [wsumBy]
  | _ :: _, 0 => by simp [wsumBy]
  | w :: ws, k + 1 => by simp [List.replicate_succ, wsumBy, hf, wsumBy_zeros hf ws k]

theorem wsumBy_append_zeros {f : Nat → Nat → Nat} (hf : ∀ w, f 0 w = 0) (k : Nat) :
    ∀ ws xs : List Nat, wsumBy f ws (xs ++ List.replicate k 0) = wsumBy f ws xs
  | ws, [] => (wsumBy_zeros hf ws k).trans (by cases ws <;> rfl)
  | [], _ :: _ => rfl
  | w :: ws, x :: xs => congrArg (f x w + ·) (wsumBy_append_zeros hf k ws xs)

/-- `digits.rstrip("0")` of `Algorithm76.get_digits` and `Algorithm68.get_digits` (leading zeros of
    the number, the digits being reversed) does not change the weighted sum when a zero digit
    contributes nothing. -/
theorem wsumBy_rstrip {f : Nat → Nat → Nat} (hf : ∀ w, f 0 w = 0) (w xs : List Nat) :
    wsumBy f (cycleWeights w (dropZeros xs.reverse).reverse.length) (dropZeros xs.reverse).reverse =
      wsumBy f (cycleWeights w xs.length) xs := by
  obtain ⟨k, hk⟩ := dropZeros_prefix xs.reverse
  have hx : xs = (dropZeros xs.reverse).reverse ++ List.replicate k 0 := by
    have := congrArg List.reverse hk
    simpa using this
  generalize (dropZeros xs.reverse).reverse = xs' at hx
  subst hx
  rw [wsumBy_append_zeros hf, wsumBy_take f (cycleWeights w (xs' ++ List.replicate k 0 : List Nat).length) xs',
    cycleWeights_take w (by simp)]

theorem rstrip0_digs (xs : List Nat) : rstrip0 (digs xs) = digs (dropZeros xs.reverse).reverse := by
  rw [rstrip0, digs_reverse, lstrip0_digs, digs_reverse]

theorem weightedSumHook_wm_rstrip {U : Unicode} (hU : U.WF) {P : DEParams} {f : Nat → Nat → Nat}
    {xs ws : List Nat} {t : List WSumTag}
    (hs : ∀ d w, summand P.summand d w = .ok (f d w) := by intros; rfl)
    (hf : ∀ w, f 0 w = 0 := by simp) (hx : ∀ d ∈ xs, d < 10 := by simp [*])
    (hw : cycleWeights P.weights xs.length = ws := by
      simp only [List.length_cons, List.length_nil, Nat.reduceAdd]; decide) :
    weightedSumHook U P (.wm :: t) (digs (dropZeros xs.reverse).reverse) =
      .ok (natToInt (wsumBy f ws xs)) := by
  rw [weightedSumHook_wm hU (hs := hs) (hw := rfl) (hx := fun d h => hx d (List.mem_reverse.mp
    (dropZeros_mem (List.mem_reverse.mp h)))), wsumBy_rstrip hf, hw]

/-- `Algorithm76.get_digits` on top of a chain that returns the digits `xs`. -/
theorem getDigits_a76 {U : Unicode} {P : DEParams} {rest : List DigitsTag} {a : Str} {xs : List Nat}
    (h : getDigits U P rest a = .ok (digs xs)) :
    getDigits U P (.a76 :: rest) a = .ok (digs (dropZeros xs.reverse).reverse) := by
  simp only [getDigits, h, Res.ok_bind, Res.pure_eq, rstrip0_digs]

/-- `Algorithm68.get_digits` on top of a chain that returns the digits `xs`: trailing zeros are
    stripped; a nine-digit rest (a ten-digit account number) must have a `9` at index 5 and only its
    first six digits count. -/
theorem getDigits_a68 {U : Unicode} {P : DEParams} {rest : List DigitsTag} {a : Str} {xs ys : List Nat}
    (h : getDigits U P rest a = .ok (digs xs)) (hy : (dropZeros xs.reverse).reverse = ys) :
    getDigits U P (.a68 :: rest) a =
      if ys.length = 9 then
        if ys.getD 5 0 = 9 then .ok (digs (ys.take 6)) else .err .invalidBBANChecksum
      else .ok (digs ys) := by
  simp only [getDigits, h, Res.ok_bind, rstrip0_digs, hy, digs_length, Res.pure_eq]
  split
  · next h9 =>
    rw [getElem?_digs (ds := ys) (k := 5) (by omega)]
    simp only [ne_eq, ite_not, digs_take]
    have e : 48 + ys.getD 5 0 = 57 ↔ ys.getD 5 0 = 9 := by omega
    simp only [e]
  · rfl

/-- `Algorithm61.get_digits`: with an `8` at position 9, positions 10 and 9 are put in front. -/
theorem getDigits_a61 {U : Unicode} {P : DEParams} {rest : List DigitsTag} {ds xs : List Nat}
    (h : getDigits U P rest (digs ds) = .ok (digs xs)) (hl : ds.length = 10 := by rfl) :
    getDigits U P (.a61 :: rest) (digs ds) =
      .ok (digs (if ds.getD 8 0 = 8 then (ds.drop 8).reverse ++ xs else xs)) := by
  have e : 48 + ds.getD 8 0 = 56 ↔ ds.getD 8 0 = 8 := by omega
  simp only [getDigits, h, Res.ok_bind, getElem?_digs (ds := ds) (k := 8) (by omega), Res.pure_eq, e, digs_drop,
    digs_reverse]
  split <;> simp [digs]

/-- `Algorithm26.adjust_input`: a number starting with `00` is shifted left by two places. -/
theorem adjustInput_a26 (t : List AdjustTag) (d1 d2 : Nat) (r : List Nat) :
    adjustInput (.a26 :: t) (digs (d1 :: d2 :: r)) =
      .ok (digs (if d1 = 0 ∧ d2 = 0 then r ++ [0, 0] else d1 :: d2 :: r)) := by
  have e1 : (48 : Nat) = 48 + d1 ↔ d1 = 0 := by omega
  have e2 : (48 : Nat) = 48 + d2 ↔ d2 = 0 := by omega
  simp only [adjustInput, startsWith, digs, List.map_cons, List.isPrefixOf, beq_iff_eq, e1, e2,
    Bool.and_eq_true, List.drop_succ_cons, List.drop_zero, Bool.and_true]
  split <;> simp

/-- The hooks below end in `if … then pure … else <rest of the chain>`, applied to the scratch cell. -/
theorem ite_app {α β : Type} (c : Prop) [Decidable c] (f g : α → β) (x : α) :
    (if c then f else g) x = if c then f x else g x := by split <;> rfl

section
variable {U : Unicode} {P : DEParams} {comp : List Str → DEM Str} {a : Str} {sc : Scratch}

/-- `Algorithm08.validate`: numbers below `min_account_code` are not checked. -/
theorem validate_a08 {n : Nat} (t : List ValidateTag) (hn : pyIntStr U a 0 false = .ok n) :
    validateHook0 U P comp (.a08 :: t) [a] sc =
      if n < P.minAccount then (sc, .ok true) else validateHook0 U P comp t [a] sc := by
  simp only [validateHook0, bind, DEM.bind', DEM.lift, hn, pure, DEM.pure', ite_app]

theorem compute_a08 {n : Nat} (t : List ComputeTag) (hn : pyIntStr U a 0 false = .ok n) :
    computeHook0 U P (.a08 :: t) [a] sc =
      if n < P.minAccount then (sc, .ok []) else computeHook0 U P t [a] sc := by
  simp only [computeHook0, bind, DEM.bind', DEM.lift, hn, pure, DEM.pure', ite_app]

theorem wmCompute_err {a' : Str} {e : Err} (ha : adjustInput P.adjustInput a = .ok a')
    (hg : getDigits U P P.getDigits a' = .err e) : wmCompute U P [a] sc = (sc, .err e) := by
  simp only [wmCompute, bind, DEM.bind', DEM.lift, ha, hg]

/-- `Algorithm68.validate`: 400000000 … 499999999 are not checked; otherwise a failed check is
    repeated with the third and fourth digit replaced by `0`. -/
theorem validate_a68 {n : Nat} (t : List ValidateTag) (hn : pyIntStr U a 0 false = .ok n) :
    validateHook0 U P comp (.a68 :: t) [a] sc =
      if 400000000 ≤ n ∧ n ≤ 499999999 then (sc, .ok true)
      else match validateHook0 U P comp t [a] sc with
        | (s, .ok true) => (s, .ok true)
        | (s, .ok false) =>
          match comp [a.take 2 ++ [48, 48] ++ a.drop 4] s with
          | (s', .ok cd) => (s', (pyIndex a ((P.positions.checkDigit : Int) - 1)).bind fun c =>
              .ok (cd == [c]))
          | (s', .err e) => (s', .err e)
          | (s', .crash c) => (s', .crash c)
        | (s, .err e) => (s, .err e)
        | (s, .crash c) => (s, .crash c) := by
  simp only [validateHook0, bind, DEM.bind', DEM.lift, hn, pure, DEM.pure', ite_app,
    Bool.and_eq_true, decide_eq_true_eq, cmpCheck]
  split
  · rfl
  · rcases validateHook0 U P comp t [a] sc with ⟨s, r⟩
    rcases r with (_ | _) | _ | _ <;> simp only [] <;> try rfl
    -- what is left is `.ok false`, which goes on to the second attempt
    all_goals
      rcases comp [a.take 2 ++ [48, 48] ++ a.drop 4] s with ⟨s', r'⟩
      rcases r' with _ | _ | _ <;> simp only [] <;> try rfl
      cases pyIndex a ((P.positions.checkDigit : Int) - 1) <;> rfl

/-- `Algorithm99.validate`: account numbers 396000000 … 499999999 are not checked. -/
theorem validate_a99 {n : Nat} (t : List ValidateTag) (hn : pyIntStr U a 0 false = .ok n) :
    validateHook0 U P comp (.a99 :: t) [a] sc =
      if 396000000 ≤ n ∧ n ≤ 499999999 then (sc, .ok true) else validateHook0 U P comp t [a] sc := by
  simp only [validateHook0, bind, DEM.bind', DEM.lift, hn, pure, DEM.pure', ite_app,
    Bool.and_eq_true, decide_eq_true_eq]

/-- `Algorithm63.validate`: the first character must be `0`. -/
theorem validate_a63 {c : Nat} (t : List ValidateTag) (hi : pyIndex a 0 = .ok c) :
    validateHook0 U P comp (.a63 :: t) [a] sc =
      if c ≠ 48 then (sc, .ok false) else validateHook0 U P comp t [a] sc := by
  simp only [validateHook0, bind, DEM.bind', DEM.lift, hi, pure, DEM.pure', ite_app]

/-- `Algorithm25.validate`: after the inherited check, remainder 1 additionally needs the second
    character to be `8` or `9`. -/
theorem validate_a25 {s : Scratch} {res : Res Bool} (t : List ValidateTag)
    (h : validateHook0 U P comp t [a] sc = (s, res)) :
    validateHook0 U P comp (.a25 :: t) [a] sc =
      (s, res.bind fun result =>
        if s.remainder = 1 then
          (pyIndex a 1).bind fun c => .ok (if c ≠ 56 && c ≠ 57 then false else result)
        else .ok result) := by
  simp only [validateHook0, bind, DEM.bind', h, DEM.getRem, pure]
  cases res <;> simp only [Res.bind]
  split
  · cases pyIndex a 1 <;> simp only [DEM.bind', DEM.lift] <;> first | rfl | (split <;> rfl)
  · rfl

/-- `Algorithm76.validate`: account types (first digit) other than 0, 4, 6, 7, 8, 9 are rejected. -/
theorem validate_a76 (hU : U.WF) {d1 : Nat} (h1 : d1 < 10) (hi : pyIndex a 0 = .ok (48 + d1))
    (t : List ValidateTag) :
    validateHook0 U P comp (.a76 :: t) [a] sc =
      if d1 = 0 ∨ d1 = 4 ∨ d1 = 6 ∨ d1 = 7 ∨ d1 = 8 ∨ d1 = 9 then validateHook0 U P comp t [a] sc
      else (sc, .ok false) := by
  have e : ((((d1 = 0 ∨ d1 = 4) ∨ d1 = 6) ∨ d1 = 7) ∨ d1 = 8) ∨ d1 = 9 ↔
      d1 = 0 ∨ d1 = 4 ∨ d1 = 6 ∨ d1 = 7 ∨ d1 = 8 ∨ d1 = 9 := by omega
  simp only [validateHook0, bind, DEM.bind', DEM.lift, hi, intChar_digit hU h1, pure, DEM.pure',
    Bool.or_eq_true, decide_eq_true_eq, e, ite_app]

/-- `Algorithm16.validate`: with remainder 1 the number is also valid when the check digit repeats
    the digit before it. -/
theorem validate_a16 {s : Scratch} {res : Res Str} (t : List ValidateTag)
    (hc : comp [a] sc = (s, res)) :
    validateHook0 U P comp (.a16 :: t) [a] sc =
      (s, res.bind fun cd =>
        if s.remainder = 1 then
          (pyIndex a ((P.positions.checkDigit : Int) - 1 - 1)).bind fun x =>
          (pyIndex a ((P.positions.checkDigit : Int) - 1)).bind fun y =>
            .ok (if x = y then true else cd == [y])
        else (pyIndex a ((P.positions.checkDigit : Int) - 1)).bind fun y => .ok (cd == [y])) := by
  simp only [validateHook0, bind, DEM.bind', hc, DEM.getRem, pure]
  cases res <;> simp only [Res.bind]
  split
  · cases pyIndex a ((P.positions.checkDigit : Int) - 1 - 1) <;> try rfl
    cases pyIndex a ((P.positions.checkDigit : Int) - 1) <;> try rfl
    simp only [DEM.bind', DEM.lift, DEM.pure', ite_app]
    split <;> rfl
  · cases pyIndex a ((P.positions.checkDigit : Int) - 1) <;> rfl

end

/-! Which rule a class implements, read off its modulus, minuend and `reconcile` chain.  An instance
  is `exact wm_ruleNN hU hd` against a goal whose class `P` and digits `ds = [d1, …, d10]` are
  literals: unifying with the goal fixes `f`, `ws`, `xs`, `pz`, and every hypothesis that then holds
  by evaluation (`hP` … `hz`, `hm`, `hmin`, `hrec`) is a default argument.  The explicit ones, `hU`
  and the digit bounds `hd`, therefore come first; a default that evaluation cannot close is given
  by name (`hcomp := …` where `compute` runs further hooks before the weighted sum). -/

section
variable {U : Unicode} (hU : U.WF) {P : DEParams} {f : Nat → Nat → Nat}
  {comp : List Str → DEM Str} {t : List ValidateTag} {ds xs ws : List Nat} {pz : Nat} {sc : Scratch}
  (hd : ∀ d ∈ ds, d < 10)
  (hP : P.Core f := by exact .of (by decide) fun _ _ => rfl)
  (hcomp : comp [digs ds] sc = wmCompute U P [digs ds] sc := by rfl)
  (hl : ds.length = 10 := by rfl)
  (hx : (if P.reverse then (slice ds (P.positions.start - 1) P.positions.stop).reverse
         else slice ds (P.positions.start - 1) P.positions.stop) = xs := by rfl)
  (hw : cycleWeights P.weights (P.positions.stop - (P.positions.start - 1)) = ws := by decide)
  (hz : ds.getD (P.positions.checkDigit - 1) 0 = pz := by rfl)
include hU hP hcomp hl hd hx hw hz

/-- The 06 combination never raises: the outcome is the rule's value (the variants of method 91
    combine such outcomes). -/
theorem wm_rule06_ok (hm : P.modulus = 11 := by rfl) (hmin : P.minuend = some 11 := by rfl)
    (hrec : P.reconcile = [.wm] := by rfl) :
    (validateHook0 U P comp (.wm :: t) [digs ds] sc).2 = .ok (rule06 (wsumBy f ws xs) pz) := by
  rw [validateWm_core hU hP t sc hcomp hl hd hx hw, hm, hmin, hrec, hz]
  exact wmVerdict_rule06 _ _ (hz ▸ getD_lt10 hd _)

theorem wm_rule06 (hm : P.modulus = 11 := by rfl) (hmin : P.minuend = some 11 := by rfl)
    (hrec : P.reconcile = [.wm] := by rfl) :
    deVerdict (validateHook0 U P comp (.wm :: t) [digs ds] sc).2 = true ∧
    deAccepts (validateHook0 U P comp (.wm :: t) [digs ds] sc).2 = rule06 (wsumBy f ws xs) pz :=
  verdict_of_eq_ok (wm_rule06_ok hU hd hP hcomp hl hx hw hz hm hmin hrec)

theorem wm_rule10 (hm : P.modulus = 10 := by rfl) (hmin : P.minuend = some 10 := by rfl)
    (hrec : P.reconcile = [.wm] := by rfl) :
    deVerdict (validateHook0 U P comp (.wm :: t) [digs ds] sc).2 = true ∧
    deAccepts (validateHook0 U P comp (.wm :: t) [digs ds] sc).2 = rule10 (wsumBy f ws xs) pz := by
  rw [validateWm_core hU hP t sc hcomp hl hd hx hw, hm, hmin, hrec, hz]
  exact verdict_of_eq_ok (wmVerdict_rule10 _ _ (hz ▸ getD_lt10 hd _))

theorem wm_rule11 (hm : P.modulus = 11 := by rfl) (hmin : P.minuend = some 11 := by rfl)
    (hrec : P.reconcile = [.a11, .wm] := by rfl) :
    deVerdict (validateHook0 U P comp (.wm :: t) [digs ds] sc).2 = true ∧
    deAccepts (validateHook0 U P comp (.wm :: t) [digs ds] sc).2 = rule11 (wsumBy f ws xs) pz := by
  rw [validateWm_core hU hP t sc hcomp hl hd hx hw, hm, hmin, hrec, hz]
  exact verdict_of_eq_ok (wmVerdict_rule11 _ _ (hz ▸ getD_lt10 hd _))

theorem wm_rule02 (hm : P.modulus = 11 := by rfl) (hmin : P.minuend = some 11 := by rfl)
    (hrec : P.reconcile = [.a02, .wm] := by rfl) :
    deVerdict (validateHook0 U P comp (.wm :: t) [digs ds] sc).2 = true ∧
    deAccepts (validateHook0 U P comp (.wm :: t) [digs ds] sc).2 = rule02 (wsumBy f ws xs) pz := by
  rw [validateWm_core hU hP t sc hcomp hl hd hx hw, hm, hmin, hrec, hz]
  exact wmVerdict_rule02 _ _ (hz ▸ getD_lt10 hd _)

theorem wm_rule25 {d2 : Nat} (h2 : ds.getD 1 0 = d2 := by rfl) (hm : P.modulus = 11 := by rfl)
    (hmin : P.minuend = some 11 := by rfl) (hrec : P.reconcile = [.wm] := by rfl) :
    deVerdict (validateHook0 U P comp (.a25 :: .wm :: t) [digs ds] sc).2 = true ∧
    deAccepts (validateHook0 U P comp (.a25 :: .wm :: t) [digs ds] sc).2 =
      rule25 (wsumBy f ws xs) d2 pz := by
  have hi : pyIndex (digs ds) 1 = .ok (48 + d2) := h2 ▸ pyIndex_digs (k := 1) (by omega)
  rw [validate_a25 _ (validateWm_core hU hP t sc hcomp hl hd hx hw), hm, hmin, hrec, hz, hi]
  exact verdict_of_eq_ok (wmVerdict_rule25 _ _ _ (hz ▸ getD_lt10 hd _) (h2 ▸ getD_lt10 hd _))

/-- Methods 16 and 23; `b` is the digit before the check digit. -/
theorem wm_rule16 {b : Nat} (hb : ds.getD (P.positions.checkDigit - 2) 0 = b := by rfl)
    (hk : 2 ≤ P.positions.checkDigit := by decide) (hm : P.modulus = 11 := by rfl)
    (hmin : P.minuend = some 11 := by rfl) (hrec : P.reconcile = [.wm] := by rfl) :
    deVerdict (validateHook0 U P comp (.a16 :: t) [digs ds] sc).2 = true ∧
    deAccepts (validateHook0 U P comp (.a16 :: t) [digs ds] sc).2 =
      rule16 (wsumBy f ws xs) b pz := by
  have hc := hP.checkDigit
  have e1 : (P.positions.checkDigit : Int) - 1 - 1 = ((P.positions.checkDigit - 2 : Nat) : Int) := by
    omega
  have e2 : (P.positions.checkDigit : Int) - 1 = ((P.positions.checkDigit - 1 : Nat) : Int) := by
    omega
  have ⟨ha, hg, hW, hr, _⟩ := wmHooks_core hU hP hl hd hx hw
  rw [validate_a16 _ (hcomp.trans (wmCompute_eval ha hr hg hW)), e1, e2,
    pyIndex_digs (by omega), pyIndex_digs (by omega), hm, hmin, hrec, hz, hb]
  exact verdict_of_eq_ok (wmVerdict_rule16 _ _ _ (hz ▸ getD_lt10 hd _) (hb ▸ getD_lt10 hd _))

end

/-- `Algorithm25.validate` reads `self.remainder` only after `compute` has written it. -/
theorem validate_a25_scratch {U : Unicode} (hU : U.WF) {P : DEParams} {f : Nat → Nat → Nat}
    {comp : List Str → DEM Str} {t : List ValidateTag} {ds : List Nat}
    (hl : ds.length = 10) (hd : ∀ d ∈ ds, d < 10) (sc sc' : Scratch)
    (hP : P.Core f := by exact .of (by decide) fun _ _ => rfl)
    (hcomp : ∀ s, comp [digs ds] s = wmCompute U P [digs ds] s := by intro; rfl) :
    validateHook0 U P comp (.a25 :: .wm :: t) [digs ds] sc =
      validateHook0 U P comp (.a25 :: .wm :: t) [digs ds] sc' := by
  rw [validate_a25 _ (validateWm_core hU hP t sc (hcomp sc) hl hd rfl rfl),
    validate_a25 _ (validateWm_core hU hP t sc' (hcomp sc') hl hd rfl rfl)]

end SV
