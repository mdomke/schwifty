/-
  The number ISO 13616 assigns to a text of digits and capital letters (`numVal`, with `numLen`
  digits) and what `numerify` computes; `str(n)` of a digit, `f"{n:02d}"`, the arithmetic of check
  digits and what `ISO7064_mod97_10` computes from them.
-/
import SV.Proofs.Ascii
import SV.Proofs.Res
import SV.Spec.Iso13616
namespace SV
open Spec

theorem allDigits_flatten {cs : List Str} (h : cs.all allDigits = true) :
    allDigits (joinStrs cs) = true := (List.all_flatten ..).trans h

theorem allAlnum_flatten {cs : List Str} (h : cs.all allAlnum = true) :
    allAlnum (joinStrs cs) = true := (List.all_flatten ..).trans h

theorem joinStrs_cons (a : Str) (t : List Str) : joinStrs (a :: t) = a ++ joinStrs t := rfl

theorem joinStrs_nil : joinStrs [] = [] := rfl

/-- Number of decimal digits the expansion of `s` has. -/
def numLen : Str → Nat
  | [] => 0
  | c :: t => (if isAsciiDigit c then 1 else 2) + numLen t

theorem numLen_le (s : Str) : numLen s ≤ 2 * s.length := by
  induction s with
  | nil => simp [numLen]
  | cons c t ih => simp only [numLen, List.length_cons]; split <;> omega

theorem numLen_pos {s : Str} (h : s ≠ []) : 0 < numLen s := by
  cases s with
  | nil => exact absurd rfl h
  | cons c t => simp only [numLen]; split <;> omega

theorem numLen_append (s t : Str) : numLen (s ++ t) = numLen s + numLen t := by
  induction s with
  | nil => simp [numLen]
  | cons c s ih => simp only [List.cons_append, numLen, ih]; omega

theorem numLen_rotate (c : Str) (n : Nat) : numLen (c.drop n ++ c.take n) = numLen c := by
  rw [numLen_append, Nat.add_comm, ← numLen_append, List.take_append_drop]

theorem numLen_take_le (a : Str) (n : Nat) : numLen (a.take n) ≤ numLen a := by
  induction a generalizing n with
  | nil => simp [numLen]
  | cons x t ih =>
    cases n with
    | zero => simp [numLen]
    | succ n => simp only [List.take_succ_cons, numLen]; have := ih n; omega

theorem alphaIndex_digit {c : Nat} (h : isAsciiDigit c = true) : alphaIndex c = some (c - 48) := by
  simp [alphaIndex, h]

theorem alphaIndex_upper {c : Nat} (h : isAsciiUpper c = true) : alphaIndex c = some (c - 55) := by
  simp [alphaIndex, h, not_digit_of_upper h]

theorem alphaIndex_none {c : Nat} (h : isAsciiAlnumUpper c = false) : alphaIndex c = none := by
  simp only [isAsciiAlnumUpper, Bool.or_eq_false_iff] at h
  simp [alphaIndex, h.1, h.2]

theorem expand_of_allAlnum : ∀ (s : Str) (v n : Nat), allAlnum s = true →
    expand s (v, n) = some (numVal s v, n + numLen s)
  | [], v, n, _ => by simp [expand, numVal, numLen]
  | c :: t, v, n, h => by
    simp only [allAlnum, List.all_cons, Bool.and_eq_true] at h
    have ht : allAlnum t = true := h.2
    cases hd : isAsciiDigit c with
    | true =>
      have hlt : c - 48 < 10 := by have := isAsciiDigit_iff.mp hd; omega
      simp only [expand, alphaIndex_digit hd, numStep, hlt, ↓reduceIte, numVal, hd, numLen]
      rw [expand_of_allAlnum t _ _ ht]; congr 2; omega
    | false =>
      have hu : isAsciiUpper c = true := by simpa [hd] using isAsciiAlnumUpper_or.mp h.1
      have hge : ¬ (c - 55 < 10) := by have := isAsciiUpper_iff.mp hu; omega
      simp only [expand, alphaIndex_upper hu, numStep, hge, ↓reduceIte, numVal, hd, numLen,
        Bool.false_eq_true]
      rw [expand_of_allAlnum t _ _ ht]; congr 2; omega

theorem expand_none_of_not_allAlnum : ∀ (s : Str) (acc : Nat × Nat), allAlnum s = false →
    expand s acc = none
  | [], _, h => by simp [allAlnum] at h
  | c :: t, acc, h => by
    cases hc : isAsciiAlnumUpper c with
    | false => simp [expand, alphaIndex_none hc]
    | true =>
      have ht : allAlnum t = false := by
        simpa [allAlnum, hc] using h
      simp only [expand]
      cases alphaIndex c with
      | none => rfl
      | some i => exact expand_none_of_not_allAlnum t _ ht

theorem numerify_eq (U : Unicode) (s : Str) :
    numerify U s =
      if allAlnum s = true ∧ s ≠ [] ∧ numLen s ≤ U.maxIntDigits then .ok (numVal s 0)
      else .err .invalidStructure := by
  unfold numerify
  cases ha : allAlnum s with
  | false => simp [expand_none_of_not_allAlnum s _ ha]
  | true =>
    rw [expand_of_allAlnum s 0 0 ha]
    simp only [Nat.zero_add, true_and]
    by_cases hs : s = []
    · subst hs; simp [numLen]
    · have := numLen_pos hs
      by_cases hm : numLen s ≤ U.maxIntDigits
      · have h0 : ¬ (numLen s = 0) := by omega
        have h1 : ¬ (U.maxIntDigits < numLen s) := by omega
        simp [hs, hm, h0, h1]
      · have h1 : U.maxIntDigits < numLen s := by omega
        simp [hs, hm, h1]

theorem numerify_no_crash (U : Unicode) (s : Str) : (numerify U s).isCrash = false := by
  rw [numerify_eq]; split <;> rfl

theorem numerify_ok {U : Unicode} {s : Str} (ha : allAlnum s = true) (hs : s ≠ [])
    (hl : numLen s ≤ U.maxIntDigits) : numerify U s = .ok (numVal s 0) := by
  rw [numerify_eq]; simp [ha, hs, hl]

theorem numerify_err {U : Unicode} {s : Str}
    (h : ¬ (allAlnum s = true ∧ numLen s ≤ U.maxIntDigits)) :
    numerify U s = .err .invalidStructure := by
  rw [numerify_eq]
  have : ¬ (allAlnum s = true ∧ s ≠ [] ∧ numLen s ≤ U.maxIntDigits) := fun h' => h ⟨h'.1, h'.2.2⟩
  rw [if_neg this]

theorem numVal_append (s t : Str) (acc : Nat) : numVal (s ++ t) acc = numVal t (numVal s acc) := by
  induction s generalizing acc with
  | nil => rfl
  | cons c s ih => simp only [List.cons_append, numVal]; split <;> exact ih _

theorem numVal_two_digits {x y : Nat} (hx : isAsciiDigit x = true) (hy : isAsciiDigit y = true)
    (acc : Nat) : numVal [x, y] acc = acc * 100 + ((x - 48) * 10 + (y - 48)) := by
  simp only [numVal, hx, hy, ↓reduceIte]; omega

theorem natToDigits_digit {n : Nat} (h : n < 10) : natToDigits n = [48 + n] :=
  (by decide : ∀ n : Fin 10, natToDigits n.val = [48 + n.val]) ⟨n, h⟩

theorem fmt02_lt_100 : ∀ n, n < 100 → fmt02 n = [48 + n / 10, 48 + n % 10] := by
  decide +kernel

theorem fmt02_eq_pair {v x y : Nat} (hv : v < 100) :
    fmt02 v = [x, y] ↔
      isAsciiDigit x = true ∧ isAsciiDigit y = true ∧ (x - 48) * 10 + (y - 48) = v := by
  simp only [fmt02_lt_100 v hv, List.cons.injEq, and_true, isAsciiDigit_iff]
  omega

theorem isoDefaultCompute_eq {U : Unicode} {b cc : Str} (ha : allAlnum (b ++ cc) = true)
    (hs : b ++ cc ≠ []) (hl : numLen (b ++ cc) ≤ U.maxIntDigits) :
    isoDefaultCompute U [b, cc] = .ok (fmt02 (checkDigits cc b)) := by
  simp only [isoDefaultCompute, isoPre, joinStrs, List.flatten_cons, List.flatten_nil,
    List.append_nil]
  rw [numerify_ok ha hs hl]
  rfl

theorem dd_iff (N dd : Nat) : ((N + dd) % 97 = 1 ∧ 2 ≤ dd ∧ dd ≤ 98) ↔ dd = 98 - N % 97 := by
  omega

theorem isoDefaultCompute_ok {U : Unicode} {cs : List Str} {d : Str}
    (h : isoDefaultCompute U cs = .ok d) : ∃ v, v ≤ 98 ∧ d = fmt02 v := by
  obtain ⟨n, -, h⟩ := Res.bind_eq_ok h
  cases h; exact ⟨98 - n % 97, by omega, rfl⟩

end SV
