/-
  `ps.all (probeOk U A)` arranged for the kernel: consecutive probes mostly carry the same key, and
  a lookup in the algorithm table costs the kernel more than running the algorithm, so the last
  lookup is carried along.
-/
import SV.Proofs.Probe
namespace SV

def probeOkAt (U : Unicode) (p : Probe) : Option AlgoEntry → Bool
  | some a =>
    decide (a.ref.compute U p.comps = p.compute) &&
    decide (a.ref.validate U p.comps p.expected = p.validate)
  | none => false

theorem probeOk_eq (U : Unicode) (A : AlgoTable) (p : Probe) :
    probeOk U A p = probeOkAt U p (A.get p.key) := by
  unfold probeOk probeOkAt; split <;> simp [*]

/-- `last = (k, A.get k)` for the key `k` looked up last. -/
def replay (U : Unicode) (A : AlgoTable) : Str × Option AlgoEntry → List Probe → Bool
  | _, [] => true
  | last, p :: ps =>
    let e := if p.key == last.1 then last.2 else A.get p.key
    probeOkAt U p e && replay U A (p.key, e) ps

theorem replay_eq (U : Unicode) (A : AlgoTable) (k : Str) (ps : List Probe) :
    replay U A (k, A.get k) ps = ps.all (probeOk U A) := by
  induction ps generalizing k with
  | nil => rfl
  | cons p ps ih =>
    have e : (if p.key == k then A.get k else A.get p.key) = A.get p.key := by
      split <;> simp_all
    simp only [replay, e, ih, List.all_cons, probeOk_eq]

theorem replay_sound {U : Unicode} {A : AlgoTable} {ps : List Probe}
    (h : replay U A ([], A.get []) ps = true) : ps.all (probeOk U A) = true :=
  replay_eq U A [] ps ▸ h

end SV
