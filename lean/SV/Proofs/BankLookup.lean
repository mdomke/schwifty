/-
  The bank-code index, the BIC list of a bucket, `maxStr`, `sortedSet`: each characterised once, for
  any registry.
-/
import SV.Model.Bic
import SV.Proofs.Str
namespace SV

/-- The entries the registry lists for a (country, bank code) pair, in file order. -/
def Registry.listed (R : Registry) (cc code : Str) : List BankEntry :=
  R.filter (fun e => e.countryCode == cc && e.bankCode == code)

theorem Registry.mem_listed {R : Registry} {cc code : Str} {e : BankEntry} :
    e ∈ R.listed cc code ↔ e ∈ R ∧ e.countryCode = cc ∧ e.bankCode = code := by
  simp [Registry.listed, List.mem_filter]

theorem Registry.listed_eq_nil {R : Registry} {cc code : Str} :
    R.listed cc code = [] ↔ ∀ e ∈ R, ¬ (e.countryCode = cc ∧ e.bankCode = code) := by
  simp [Registry.listed, List.filter_eq_nil_iff]

theorem Registry.listed_append (R1 R2 : Registry) (cc code : Str) :
    Registry.listed (R1 ++ R2) cc code = R1.listed cc code ++ R2.listed cc code :=
  List.filter_append ..

theorem Registry.byBankCode_eq (R : Registry) (cc code : Str) :
    R.byBankCode cc code =
      if cc = [] ∨ code = [] ∨ R.listed cc code = [] then none else some (R.listed cc code) := by
  unfold Registry.byBankCode
  rw [show R.filter (fun e => e.countryCode == cc && e.bankCode == code) = R.listed cc code from rfl]
  by_cases h1 : cc = [] <;> by_cases h2 : code = [] <;> cases R.listed cc code <;> simp [h1, h2]

theorem Registry.byBankCode_eq_some {R : Registry} {cc code : Str} {l : List BankEntry} :
    R.byBankCode cc code = some l ↔ cc ≠ [] ∧ code ≠ [] ∧ l ≠ [] ∧ R.listed cc code = l := by
  rw [Registry.byBankCode_eq]
  split <;> rename_i h
  · simp only [reduceCtorEq, false_iff]
    rintro ⟨h1, h2, h3, rfl⟩
    simp [h1, h2, h3] at h
  · simp only [not_or] at h
    simp only [Option.some.injEq]
    exact ⟨fun e => e ▸ ⟨h.1, h.2.1, h.2.2, rfl⟩, fun e => e.2.2.2⟩

theorem Registry.mem_byBankCode {R : Registry} {cc code : Str} {l : List BankEntry} {e : BankEntry}
    (h : R.byBankCode cc code = some l) :
    e ∈ l ↔ e ∈ R ∧ e.countryCode = cc ∧ e.bankCode = code := by
  obtain ⟨-, -, -, rfl⟩ := Registry.byBankCode_eq_some.mp h
  exact Registry.mem_listed

theorem Registry.byBankCode_eq_none {R : Registry} {cc code : Str} :
    R.byBankCode cc code = none ↔ cc = [] ∨ code = [] ∨ R.listed cc code = [] := by
  rw [Registry.byBankCode_eq]; split <;> simp [*]

theorem Registry.mem_byCountry {R : Registry} {cc : Str} {l : List BankEntry} {e : BankEntry}
    (h : R.byCountry cc = some l) (he : e ∈ l) : e ∈ R ∧ e.countryCode = cc ∧ cc ≠ [] := by
  unfold Registry.byCountry at h
  split at h
  · cases h
  · next hc =>
    have : l = R.filter (fun e => e.countryCode == cc) := by split at h <;> cases h <;> simp [*]
    simpa [this, List.mem_filter, hc] using he

theorem Registry.mem_byBic {R : Registry} {b : Str} {e : BankEntry} :
    e ∈ R.byBic b ↔ b ≠ [] ∧ e ∈ R ∧ e.bic = some b := by
  unfold Registry.byBic
  by_cases hb : b = [] <;> simp [hb, List.mem_filter]

theorem mem_sortPrimaryFirst {l : List BankEntry} {e : BankEntry} :
    e ∈ sortPrimaryFirst l ↔ e ∈ l := by
  cases h : e.primary <;> simp [sortPrimaryFirst, List.mem_filter, h]

/-- `entry["bic"]` when it is truthy (neither `None` nor `""`). -/
def BankEntry.bic? (e : BankEntry) : Option Str := e.bic.filter (· != [])

theorem BankEntry.bic?_eq_some {e : BankEntry} {b : Str} :
    e.bic? = some b ↔ e.bic = some b ∧ b ≠ [] := by
  simp [BankEntry.bic?, Option.filter_eq_some_iff]

theorem bicsOf_eq_filterMap (X : BicCtx) : ∀ l : List BankEntry,
    (∀ e ∈ l, ∀ b, e.bic = some b → b ≠ [] → BIC.new X b false false = .ok b) →
    bicsOf X l = .ok (l.filterMap BankEntry.bic?)
  | [], _ => rfl
  | e :: t, h => by
    have ih := bicsOf_eq_filterMap X t fun x hx => h x (List.mem_cons_of_mem _ hx)
    have he := h e List.mem_cons_self
    unfold bicsOf
    rw [List.filterMap_cons]
    cases hb : e.bic with
    | none => simpa [BankEntry.bic?, hb] using ih
    | some b =>
      by_cases hbe : b = []
      · simpa [BankEntry.bic?, hb, hbe, Option.filter] using ih
      · simp only [hbe, ↓reduceIte, he b hb hbe, ih, BankEntry.bic?_eq_some.mpr ⟨hb, hbe⟩]
        rfl

theorem maxStr_eq_none : ∀ {l : List Str}, maxStr l = none ↔ l = []
  | [] => by simp [maxStr]
  | a :: t => by unfold maxStr; cases maxStr t <;> simp

theorem maxStr_spec : ∀ {l : List Str} {m : Str}, maxStr l = some m →
    m ∈ l ∧ ∀ x ∈ l, strLt m x = false
  | a :: t, m, h => by
    unfold maxStr at h
    cases ht : maxStr t with
    | none =>
      obtain rfl : a = m := by simpa [ht] using h
      simp [maxStr_eq_none.mp ht, strLt_irrefl]
    | some m' =>
      have ⟨hm', hmax⟩ := maxStr_spec ht
      simp only [ht, Option.some.injEq] at h
      by_cases hlt : strLt m' a = true
      · obtain rfl : a = m := by simpa [hlt] using h
        refine ⟨List.mem_cons_self, fun x hx => ?_⟩
        rcases List.mem_cons.mp hx with rfl | hx
        · exact strLt_irrefl _
        · -- `m' < a < x` would put `x` above the maximum of the tail
          cases hax : strLt a x with
          | false => rfl
          | true => rw [← hmax x hx]; exact (strLt_trans hlt hax).symm
      · obtain rfl : m' = m := by simpa [hlt] using h
        refine ⟨List.mem_cons_of_mem _ hm', fun x hx => ?_⟩
        rcases List.mem_cons.mp hx with rfl | hx
        · simpa using hlt
        · exact hmax x hx

theorem maxStr_filter_some {p : Str → Bool} {l : List Str} {m : Str}
    (h : maxStr (l.filter p) = some m) :
    m ∈ l ∧ p m = true ∧ ∀ c ∈ l, p c = true → strLt m c = false := by
  have ⟨hm, hmax⟩ := maxStr_spec h
  have hm := List.mem_filter.mp hm
  exact ⟨hm.1, hm.2, fun c hc hp => hmax c (List.mem_filter.mpr ⟨hc, hp⟩)⟩

theorem maxStr_filter_none {p : Str → Bool} {l : List Str} :
    maxStr (l.filter p) = none ↔ ∀ c ∈ l, p c = false := by
  simp [maxStr_eq_none, List.filter_eq_nil_iff]

theorem mem_sortedSet_ins (x y : Str) (l : List Str) :
    y ∈ sortedSet.ins x l ↔ y = x ∨ y ∈ l := by
  induction l with
  | nil => simp [sortedSet.ins]
  | cons z t ih =>
    unfold sortedSet.ins
    split
    · rename_i h; simp [show x = z by simpa using h]
    · split
      · simp
      · simp only [List.mem_cons, ih]; exact or_left_comm

theorem mem_sortedSet (y : Str) (l : List Str) : y ∈ sortedSet l ↔ y ∈ l := by
  have : ∀ acc : List Str,
      y ∈ l.foldl (fun acc x => sortedSet.ins x acc) acc ↔ y ∈ acc ∨ y ∈ l := by
    induction l with
    | nil => simp
    | cons a t ih =>
      intro acc
      simp only [List.foldl_cons, ih, mem_sortedSet_ins, List.mem_cons]
      rw [or_assoc, or_left_comm]
  simpa [sortedSet] using this []

end SV
