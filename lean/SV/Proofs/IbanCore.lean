/-
  A compact IBAN taken apart (country code, check digits, BBAN), the first validation stage, and
  the two readings of a structure string: the classes of the compiled pattern (Unicode `\d`, mixed
  case) against the ISO classes.
-/
import SV.Proofs.Regex
import SV.Proofs.Clean
import SV.Proofs.Str
namespace SV
open Spec

variable {U : Unicode}

theorem bban_of_compact {c : Str} (h : Compact U c) : IBAN.bban U c = c.drop 4 := by
  unfold IBAN.bban
  rw [getSlice_none, clean_of_compact (compact_drop h 4)]

theorem countryCode_eq {c : Str} (h : 2 ≤ c.length) : IBAN.countryCode c = c.take 2 := by
  have h0 : 0 < c.length := by omega
  simp [IBAN.countryCode, getSlice, h, h0, slice]

theorem checksumDigits_eq {c : Str} (h : 4 ≤ c.length) :
    IBAN.checksumDigits c = (c.take 4).drop 2 := by
  have h0 : 2 < c.length := by omega
  simp [IBAN.checksumDigits, getSlice, h, h0, slice]

/-- `[A-Z]{2}\d{2}` of `_validate_characters` (its trailing `[A-Z]*` constrains nothing). -/
def prefixOk (U : Unicode) : Str → Bool
  | a :: b :: d1 :: d2 :: _ => isAsciiUpper a && isAsciiUpper b && U.isDigit d1 && U.isDigit d2
  | _ => false

theorem validateCharacters_eq (c : Str) :
    IBAN.validateCharacters U c = if prefixOk U c then .ok () else .err .invalidStructure := by
  unfold IBAN.validateCharacters prefixOk
  split <;> simp

theorem prefixOk_length {c : Str} (h : prefixOk U c = true) : 4 ≤ c.length := by
  match c, h with
  | a :: b :: d1 :: d2 :: t, _ => simp

theorem list_ge4 {c : Str} (h : 4 ≤ c.length) : ∃ a b d1 d2 rest, c = a :: b :: d1 :: d2 :: rest := by
  match c, h with
  | a :: b :: d1 :: d2 :: rest, _ => exact ⟨a, b, d1, d2, rest, rfl⟩

theorem asciiDigit_of_isDigit_alnum (hU : U.WF) {d : Nat} (h1 : U.isDigit d = true)
    (h2 : isAsciiAlnumUpper d = true) : isAsciiDigit d = true := by
  rcases isAsciiAlnumUpper_or.mp h2 with h | h
  · exact h
  · rw [hU.not_isDigit_upper h] at h1; exact absurd h1 (by simp)

/-- The blank is excluded: class `e` accepts it, the alphabet of `numerify` does not. -/
theorem SClass.ok_iff (hU : U.WF) (k : SClass) {x : Nat} (hx : x ≠ 32) :
    k.ok x = true ↔ k.reTest U x = true ∧ isAsciiAlnumUpper x = true := by
  cases k with
  | n => exact ⟨fun h => ⟨hU.isDigit_ascii h, isAsciiAlnumUpper_or.mpr (.inl h)⟩,
      fun h => asciiDigit_of_isDigit_alnum hU h.1 h.2⟩
  | a => exact ⟨fun h => ⟨h, isAsciiAlnumUpper_or.mpr (.inr h)⟩, fun h => h.1⟩
  | c =>
    simp only [SClass.ok, SClass.reTest, isAsciiAlnumUpper, Bool.or_eq_true]
    exact ⟨fun h => ⟨.inl h, h⟩, fun h => h.2⟩
  | e => simp [SClass.ok, SClass.reTest, hx]

theorem fitsClasses_iff (hU : U.WF) : ∀ (cls : List SClass) (s : Str), (32 : Nat) ∉ s →
    (fitsClasses cls s = true ↔ fitsRe U cls s = true ∧ allAlnum s = true)
  | [], [], _ => by simp [fitsClasses, fitsRe, allAlnum]
  | [], _ :: _, _ => by simp [fitsClasses, fitsRe]
  | _ :: _, [], _ => by simp [fitsClasses, fitsRe]
  | k :: cls, x :: s, h => by
    have ih := fitsClasses_iff hU cls s (fun hm => h (by simp [hm]))
    have hx := SClass.ok_iff hU k (x := x) (fun e => h (by simp [e]))
    simp only [allAlnum] at ih
    simp only [fitsClasses, fitsRe, allAlnum, List.all_cons, Bool.and_eq_true, hx, ih]
    exact ⟨fun ⟨⟨a, b⟩, c, d⟩ => ⟨⟨a, c⟩, b, d⟩, fun ⟨⟨a, c⟩, b, d⟩ => ⟨⟨a, b⟩, c, d⟩⟩

end SV

