/-
  The mod-97 check detects every same-kind substitution and every same-kind transposition at an
  expanded distance below 96, the order of 10: replacing a block of the text changes the residue
  unless the blocks agree modulo 97 (`block_residue`).
-/
import SV.Proofs.Numerify
namespace SV
open Spec

/-- Width and value of what `numerify` expands a character to. -/
def cw (c : Nat) : Nat := if isAsciiDigit c then 1 else 2
def cv (c : Nat) : Nat := if isAsciiDigit c then c - 48 else c - 55

theorem numVal_acc : ∀ (s : Str) (acc : Nat), numVal s acc = acc * 10 ^ numLen s + numVal s 0
  | [], acc => by simp [numVal, numLen]
  | c :: t, acc => by
    simp only [numVal, numLen]
    by_cases h : isAsciiDigit c = true
    · simp only [h, ↓reduceIte]
      rw [numVal_acc t (acc * 10 + (c - 48)), numVal_acc t (0 * 10 + (c - 48))]
      rw [Nat.pow_add]; simp only [Nat.pow_one, Nat.zero_mul, Nat.zero_add]
      rw [Nat.add_mul, Nat.mul_assoc, Nat.add_assoc]
    · simp only [h, Bool.false_eq_true, ↓reduceIte]
      rw [numVal_acc t (acc * 100 + (c - 55)), numVal_acc t (0 * 100 + (c - 55))]
      rw [Nat.pow_add]; simp only [Nat.zero_mul, Nat.zero_add]
      rw [Nat.add_mul, Nat.mul_assoc, Nat.add_assoc]

theorem numVal_block (p m s : Str) :
    numVal (p ++ m ++ s) 0 =
      numVal p 0 * 10 ^ (numLen m + numLen s) + numVal m 0 * 10 ^ numLen s + numVal s 0 := by
  rw [numVal_append, numVal_append, numVal_acc s, numVal_acc m, Nat.add_mul, Nat.mul_assoc,
    ← Nat.pow_add]

theorem cancel_unit97 {u : Nat} (v : Nat) (huv : (u * v) % 97 = 1) {m : Nat}
    (h : (m * u) % 97 = 0) : m % 97 = 0 := by
  have : (m * u * v) % 97 = 0 := by rw [Nat.mul_mod, h, Nat.zero_mul, Nat.zero_mod]
  rwa [Nat.mul_assoc, Nat.mul_mod, huv, Nat.mul_one, Nat.mod_mod] at this

/-- 10 is a unit modulo 97 (`10 · 68 = 7 · 97 + 1`). -/
theorem mul_pow10_mod97 (m : Nat) : ∀ k, (m * 10 ^ k) % 97 = 0 → m % 97 = 0
  | 0, h => by simpa using h
  | k + 1, h => by
    rw [Nat.pow_succ, ← Nat.mul_assoc] at h
    exact mul_pow10_mod97 m k (cancel_unit97 68 rfl h)

theorem residue_diff {A M M' L S : Nat} (hle : M' ≤ M)
    (h : (A + M * L + S) % 97 = (A + M' * L + S) % 97) : ((M - M') * L) % 97 = 0 := by
  rw [Nat.sub_mul]
  have := Nat.mul_le_mul_right L hle
  omega

theorem residue_cancel {A M M' L S : Nat} (hL : ∀ m, (m * L) % 97 = 0 → m % 97 = 0)
    (h : (A + M * L + S) % 97 = (A + M' * L + S) % 97) : M % 97 = M' % 97 := by
  rcases Nat.le_total M' M with hle | hle
  · have := hL _ (residue_diff hle h); omega
  · have := hL _ (residue_diff hle h.symm); omega

theorem block_residue (p s : Str) {m m' : Str} (hl : numLen m = numLen m')
    (h : numVal (p ++ m ++ s) 0 % 97 = numVal (p ++ m' ++ s) 0 % 97) :
    numVal m 0 % 97 = numVal m' 0 % 97 := by
  rw [numVal_block, numVal_block, hl] at h
  exact residue_cancel (fun m => mul_pow10_mod97 m _) h

/-- Same kind: both ASCII digits or both ASCII upper-case letters. -/
def sameKind (x y : Nat) : Bool :=
  (isAsciiDigit x && isAsciiDigit y) || (isAsciiUpper x && isAsciiUpper y)

theorem sameKind_facts {x y : Nat} (h : sameKind x y = true) (hne : x ≠ y) :
    cw x = cw y ∧ (cw y = 1 ∨ cw y = 2) ∧ cv x ≠ cv y ∧ cv x < 36 ∧ cv y < 36 := by
  simp only [sameKind, Bool.or_eq_true, Bool.and_eq_true] at h
  rcases h with ⟨hx, hy⟩ | ⟨hx, hy⟩
  · have := isAsciiDigit_iff.mp hx; have := isAsciiDigit_iff.mp hy
    simp only [cw, cv, hx, hy, ↓reduceIte, true_and, true_or]
    omega
  · have := isAsciiUpper_iff.mp hx; have := isAsciiUpper_iff.mp hy
    simp only [cw, cv, not_digit_of_upper hx, not_digit_of_upper hy, Bool.false_eq_true, ↓reduceIte,
      true_and, or_true]
    omega

theorem numVal_single (x : Nat) : numVal [x] 0 = cv x := by
  simp only [numVal, cv]; split <;> simp

theorem numLen_single (x : Nat) : numLen [x] = cw x := by
  simp only [numLen, cw]; split <;> simp

theorem subst_changes_residue (p s : Str) (x y : Nat) (hk : sameKind x y = true) (hne : x ≠ y) :
    numVal (p ++ x :: s) 0 % 97 ≠ numVal (p ++ y :: s) 0 % 97 := by
  obtain ⟨hw, _, hv, hx, hy⟩ := sameKind_facts hk hne
  intro h
  have := block_residue p s (m := [x]) (m' := [y])
    (by rw [numLen_single, numLen_single, hw]) (by simpa using h)
  rw [numVal_single, numVal_single] at this
  omega

/-- 36 bounds the difference of two character values. -/
theorem unit_lt_36 : ∀ d : Fin 36, 0 < d.val → ∃ v : Fin 97, (d.val * v.val) % 97 = 1 := by
  decide +kernel

/-- The order of 10 modulo 97 is 96: no smaller positive power is 1. -/
theorem pow10_ne_one : ∀ K : Fin 96, 0 < K.val → 10 ^ K.val % 97 ≠ 1 := by decide +kernel

theorem swap_forces_one {x y P Q : Nat} (hyx : y < x) (hx : x < 36) (hP : 0 < P)
    (h : (x * P + Q + y) % 97 = (y * P + Q + x) % 97) : P % 97 = 1 := by
  obtain ⟨L, rfl⟩ : ∃ L, P = L + 1 := ⟨P - 1, by omega⟩
  have h' : (0 + x * L + (x + y + Q)) % 97 = (0 + y * L + (x + y + Q)) % 97 := by
    rw [Nat.mul_succ, Nat.mul_succ] at h; omega
  have hd := residue_diff (Nat.le_of_lt hyx) h'
  obtain ⟨v, hv⟩ := unit_lt_36 ⟨x - y, by omega⟩ (by simp; omega)
  have := cancel_unit97 v.val hv (Nat.mul_comm _ _ ▸ hd)
  omega

/-- The expanded distance `D = cw b + numLen m` is below 96, the order of 10: the difference of the
    two numbers is `(x − y)·(10^D − 1)·10^…`, and `x − y` and 10 are units. -/
theorem swap_far_changes_residue (p m s : Str) (a b : Nat) (hk : sameKind a b = true)
    (hne : a ≠ b) (hD : cw b + numLen m < 96) :
    numVal (p ++ a :: (m ++ b :: s)) 0 % 97 ≠ numVal (p ++ b :: (m ++ a :: s)) 0 % 97 := by
  obtain ⟨hw, hw12, hv, ha, hb⟩ := sameKind_facts hk hne
  have val : ∀ u v, numVal ([u] ++ m ++ [v]) 0 =
      cv u * 10 ^ (numLen m + cw v) + numVal m 0 * 10 ^ cw v + cv v := fun u v => by
    rw [numVal_block, numVal_single, numVal_single, numLen_single]
  have len : ∀ u v, numLen ([u] ++ m ++ [v]) = cw u + numLen m + cw v := fun u v => by
    rw [numLen_append, numLen_append, numLen_single, numLen_single]
  intro h
  have h := block_residue p s (m := [a] ++ m ++ [b]) (m' := [b] ++ m ++ [a])
    (by rw [len, len, hw]) (by simpa using h)
  rw [val, val, hw] at h
  have hK := pow10_ne_one ⟨numLen m + cw b, by omega⟩ (by simp; omega)
  have hP : 0 < 10 ^ (numLen m + cw b) := Nat.pow_pos (by decide)
  rcases Nat.lt_or_gt_of_ne hv with hlt | hgt
  · exact hK (swap_forces_one hlt hb hP h.symm)
  · exact hK (swap_forces_one hgt ha hP h)

/-- Adjacent in the rearranged text. -/
theorem swap_changes_residue (p s : Str) (a b : Nat) (hk : sameKind a b = true) (hne : a ≠ b) :
    numVal (p ++ a :: b :: s) 0 % 97 ≠ numVal (p ++ b :: a :: s) 0 % 97 := by
  have := (sameKind_facts hk hne).2.1
  exact swap_far_changes_residue p [] s a b hk hne (by simp only [numLen]; omega)

end SV
