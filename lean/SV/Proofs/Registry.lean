/-
  Laws of `merge_dicts` on JSON documents, at one key and along a path; the key operations of
  `parse_v2`; one step of the fold of `registry.get`.
-/
import SV.Model.Registry
namespace SV

theorem lookupJ_append (k : Str) (a b : List (Str × J)) :
    lookupJ k (a ++ b) = (lookupJ k a).orElse (fun _ => lookupJ k b) := by
  induction a with
  | nil => simp [lookupJ]
  | cons p t ih =>
    obtain ⟨k', v⟩ := p
    simp only [List.cons_append, lookupJ]
    split
    · simp
    · exact ih

theorem lookupJ_mergeL (k : Str) (l r : List (Str × J)) :
    lookupJ k (mergeL l r) =
      (lookupJ k l).map (fun lv => match lookupJ k r with
        | some rv => J.merge lv rv
        | none => lv) := by
  induction l with
  | nil => simp [mergeL, lookupJ]
  | cons p t ih =>
    obtain ⟨k', v⟩ := p
    simp only [mergeL, lookupJ]
    by_cases h : (k == k') = true
    · have : k = k' := by simpa using h
      subst this
      simp only [beq_self_eq_true, ↓reduceIte, Option.map_some]
      cases lookupJ k r <;> rfl
    · simp only [h, Bool.false_eq_true, ↓reduceIte]
      exact ih

theorem lookupJ_filter (k : Str) (f : Str → Bool) (r : List (Str × J)) :
    lookupJ k (r.filter (fun p => f p.1)) = if f k then lookupJ k r else none := by
  induction r with
  | nil => simp [lookupJ]
  | cons p t ih =>
    obtain ⟨k', v⟩ := p
    by_cases hk : (k == k') = true
    · obtain rfl : k = k' := by simpa using hk
      cases hf : f k <;> simp [hf, lookupJ, ih]
    · cases hf' : f k' <;> simp [hf', lookupJ, hk, ih]

theorem merge_get (k : Str) (l r : List (Str × J)) :
    lookupJ k (mergeDicts l r) =
      match lookupJ k l, lookupJ k r with
      | some lv, some rv => some (J.merge lv rv)
      | some lv, none => some lv
      | none, some rv => some rv
      | none, none => none := by
  unfold mergeDicts
  rw [lookupJ_append, lookupJ_mergeL]
  have hf := lookupJ_filter k (fun x => !(hasKey x l)) r
  rw [hf]
  cases hl : lookupJ k l with
  | some lv =>
    cases hr : lookupJ k r <;> simp
  | none =>
    simp only [Option.map_none, Option.orElse_none, hasKey, hl, Option.isSome_none, Bool.not_false,
      ↓reduceIte]
    cases hr : lookupJ k r <;> rfl

theorem merge_dict_dict (lv rv : J) :
    J.merge lv rv = match lv, rv with
      | .obj a, .obj b => .obj (mergeDicts a b)
      | _, r => r := by
  cases lv <;> cases rv <;> simp [J.merge, mergeDicts]

theorem merge_keys (k : Str) (l r : List (Str × J)) :
    hasKey k (mergeDicts l r) = (hasKey k l || hasKey k r) := by
  unfold hasKey
  rw [merge_get]
  cases lookupJ k l <;> cases lookupJ k r <;> rfl

/-- `doc[k1][k2]…`, walking through dicts only. -/
def getPath : J → List Str → Option J
  | v, [] => some v
  | .obj kv, k :: ks => match lookupJ k kv with
    | some v => getPath v ks
    | none => none
  | _, _ :: _ => none

def J.isObj : J → Bool
  | .obj _ => true
  | _ => false

/-- The overlay does not name the path: walking it through the overlay's dicts ends at a missing
    key. -/
def untouched : J → List Str → Bool
  | .obj kv, k :: ks => match lookupJ k kv with
    | some v => untouched v ks
    | none => true
  | _, _ => false

theorem getPath_untouched : ∀ (r : J) (p : List Str), untouched r p = true → getPath r p = none
  | .obj kv, k :: ks, h => by
    simp only [untouched] at h
    simp only [getPath]
    cases hk : lookupJ k kv with
    | none => rfl
    | some v => rw [hk] at h; exact getPath_untouched v ks h
  | .obj _, [], h => by simp [untouched] at h
  | .null, _, h | .bool _, _, h | .num _, _, h | .str _, _, h | .arr _, _, h => by
    simp [untouched] at h

theorem J.merge_of_not_obj {l r : J} (h : l.isObj = false ∨ r.isObj = false) : J.merge l r = r := by
  cases l <;> cases r <;> first | rfl | simp [J.isObj] at h

/-- The last case: the overlay holds a non-dict above the path, which replaces the base's dict. -/
theorem getPath_merge : ∀ (p : List Str) (l r : J),
    getPath (J.merge l r) p =
      match getPath r p with
      | some rv => some (match getPath l p with
        | some lv => J.merge lv rv
        | none => rv)
      | none => if untouched r p then getPath l p else none
  | [], l, r => by simp [getPath]
  | k :: ks, l, r => by
    cases r with
    | obj b =>
      cases l with
      | obj a =>
        rw [merge_dict_dict]
        cases ha : lookupJ k a <;> cases hb : lookupJ k b <;>
          simp only [getPath, untouched, merge_get, ha, hb, ↓reduceIte]
        · cases getPath _ ks <;> simp
        · exact getPath_merge ks _ _
      | _ =>
        rw [J.merge_of_not_obj (.inl rfl)]
        cases getPath (.obj b) (k :: ks) <;> simp [getPath]
    | _ => rw [J.merge_of_not_obj (.inr rfl)]; simp [getPath, untouched]

theorem lookupJ_setKey_same (k : Str) (v : J) (kv : List (Str × J)) :
    lookupJ k (setKey k v kv) = some v := by
  induction kv with
  | nil => simp [setKey, lookupJ]
  | cons p t ih =>
    obtain ⟨k', v'⟩ := p
    simp only [setKey]
    by_cases h : (k == k') = true
    · simp [h, lookupJ]
    · simp only [h, Bool.false_eq_true, ↓reduceIte, lookupJ]; exact ih

theorem lookupJ_setKey_other {k k' : Str} (h : (k' == k) = false) (v : J) (kv : List (Str × J)) :
    lookupJ k' (setKey k v kv) = lookupJ k' kv := by
  induction kv with
  | nil => simp [setKey, lookupJ, h]
  | cons p t ih =>
    obtain ⟨k'', v''⟩ := p
    simp only [setKey]
    by_cases hk : (k == k'') = true
    · have : k = k'' := by simpa using hk
      subst this
      simp [lookupJ, h]
    · simp only [hk, Bool.false_eq_true, ↓reduceIte, lookupJ]
      split
      · rfl
      · exact ih

theorem removeKey_eq_filter (k : Str) (kv : List (Str × J)) :
    removeKey k kv = kv.filter (fun p => !(p.1 == k)) := by
  induction kv with
  | nil => rfl
  | cons p t ih =>
    simp only [removeKey, List.filter_cons, ih, Bool.beq_comm (a := k)]
    cases p.1 == k <;> rfl

theorem lookupJ_removeKey (k k' : Str) (kv : List (Str × J)) :
    lookupJ k' (removeKey k kv) = if (k' == k) = true then none else lookupJ k' kv := by
  rw [removeKey_eq_filter, lookupJ_filter k' (fun x => !(x == k))]
  cases k' == k <;> rfl

theorem foldGet_cons_dict {f : RegFile} {r : List (Str × J)} (hv : isV2 f.name = false)
    (hd : f.doc = .obj r) (l : List (Str × J)) (rest : List RegFile) :
    foldGet (f :: rest) (some (.obj l)) = foldGet rest (some (.obj (mergeDicts l r))) := by
  simp [foldGet, chunkOf, hv, hd, stepGet]

theorem foldGet_cons_list {f : RegFile} {c : List J} (hv : isV2 f.name = false)
    (hd : f.doc = .arr c) (l : List J) (rest : List RegFile) :
    foldGet (f :: rest) (some (.arr l)) = foldGet rest (some (.arr (l ++ c))) := by
  simp [foldGet, chunkOf, hv, hd, stepGet]

end SV
