/-
  `Spec.fits` as `Spec.fitsClasses` (a text against one class per position): length, prefixes,
  suffixes, concatenation, and what all classes guarantee of all characters — in particular the two
  tests on class lists (`clsDigits`, `clsAlnum`) under which a fitting text is all digits /
  alphanumeric.
-/
import SV.Spec.Iso13616
import SV.Proofs.Ascii
namespace SV
open Spec

theorem fits_eq_of_classes {e : Country} {cls : List SClass}
    (h : (parseSpec e.bbanSpec).map expandSpec = some cls) (b : Str) : fits e b = fitsClasses cls b := by
  unfold fits
  cases hp : parseSpec e.bbanSpec <;> simp_all

theorem fits_of_parse {e : Country} {l : List (Nat × SClass)} (h : parseSpec e.bbanSpec = some l)
    (b : Str) : fits e b = fitsClasses (expandSpec l) b :=
  fits_eq_of_classes (by rw [h]; rfl) b

theorem fitsClasses_length : ∀ {cls : List SClass} {s : Str},
    fitsClasses cls s = true → s.length = cls.length
  | [], [], _ => rfl
  | [], _ :: _, h => nomatch h
  | _ :: _, [], h => nomatch h
  | _ :: _, _ :: _, h => congrArg Nat.succ (fitsClasses_length (Bool.and_eq_true_iff.mp h).2)

theorem fitsClasses_take : ∀ {l : List SClass} {s : Str} (n : Nat), fitsClasses l s = true →
    fitsClasses (l.take n) (s.take n) = true
  | _, _, 0, _ => by simp [fitsClasses]
  | [], [], _ + 1, _ => by simp [fitsClasses]
  | [], _ :: _, _ + 1, h => nomatch h
  | _ :: _, [], _ + 1, h => nomatch h
  | k :: cs, x :: xs, n + 1, h => by
    simp only [fitsClasses, Bool.and_eq_true] at h
    simp only [List.take_succ_cons, fitsClasses, h.1, fitsClasses_take n h.2, Bool.and_self]

theorem fitsClasses_drop : ∀ {l : List SClass} {s : Str} (n : Nat), fitsClasses l s = true →
    fitsClasses (l.drop n) (s.drop n) = true
  | _, _, 0, h => by simpa using h
  | [], [], _ + 1, _ => by simp [fitsClasses]
  | [], _ :: _, _ + 1, h => nomatch h
  | _ :: _, [], _ + 1, h => nomatch h
  | k :: cs, x :: xs, n + 1, h => by
    simp only [fitsClasses, Bool.and_eq_true] at h
    simpa using fitsClasses_drop n h.2

theorem all_of_fits {P : Nat → Bool} : ∀ {l : List SClass} {s : Str}, fitsClasses l s = true →
    (∀ k ∈ l, ∀ x, k.ok x = true → P x = true) → s.all P = true
  | [], [], _, _ => rfl
  | [], _ :: _, h, _ => nomatch h
  | _ :: _, [], h, _ => nomatch h
  | k :: cs, x :: xs, h, hP => by
    simp only [fitsClasses, Bool.and_eq_true] at h
    simp only [List.all_cons, hP k List.mem_cons_self x h.1, Bool.true_and]
    exact all_of_fits h.2 (fun k hk => hP k (List.mem_cons_of_mem _ hk))

theorem fitsClasses_append : ∀ {l1 l2 : List SClass} {s1 s2 : Str},
    fitsClasses l1 s1 = true → fitsClasses l2 s2 = true → fitsClasses (l1 ++ l2) (s1 ++ s2) = true
  | [], _, [], _, _, h2 => by simpa using h2
  | [], _, _ :: _, _, h1, _ => nomatch h1
  | _ :: _, _, [], _, h1, _ => nomatch h1
  | k :: l1, l2, x :: s1, s2, h1, h2 => by
    simp only [fitsClasses, Bool.and_eq_true] at h1
    simp only [List.cons_append, fitsClasses, h1.1, Bool.true_and]
    exact fitsClasses_append h1.2 h2

def clsDigits (l : List SClass) : Bool := l.all (· == .n)
def clsAlnum (l : List SClass) : Bool := l.all (· != .e)

theorem digits_of_fits {l : List SClass} {s : Str} (h : fitsClasses l s = true)
    (hd : clsDigits l = true) : allDigits s = true :=
  all_of_fits h (fun k hk x hx => by
    rw [beq_iff_eq.mp (List.all_eq_true.mp hd k hk)] at hx; exact hx)

theorem alnum_of_fits {l : List SClass} {s : Str} (h : fitsClasses l s = true)
    (hd : clsAlnum l = true) : allAlnum s = true :=
  all_of_fits h (fun k hk x hx => by
    have hne := List.all_eq_true.mp hd k hk
    cases k <;> simp_all [SClass.ok, isAsciiAlnumUpper])

end SV
