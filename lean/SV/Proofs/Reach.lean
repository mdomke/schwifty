/-
  Every bank code that fits a country's bank-identifying field occurs in a structure-conforming BBAN
  of that country and is read back from it (C17, last sentence); the classes of that field are those
  the registry rows are checked against (`keyClasses`).
-/
import SV.Proofs.FromComponents
import SV.Proofs.Fits
import SV.Proofs.BankData
namespace SV
open Spec

def fillChar : SClass → Nat
  | .n => 48 | .a => 65 | .c => 48 | .e => 32

theorem fillChar_ok (k : SClass) : k.ok (fillChar k) = true := by cases k <;> decide

theorem fits_filler : ∀ cls : List SClass, fitsClasses cls (cls.map fillChar) = true
  | [] => rfl
  | k :: t => by simp [fitsClasses, fillChar_ok, fits_filler t]

theorem fits_overlay {cls : List SClass} {b v : Str} {r : Range} (hb : fitsClasses cls b = true)
    (hr : r.start ≤ r.stop)
    (hv : fitsClasses ((cls.take r.stop).drop r.start) v = true) :
    fitsClasses cls (overlay b r v) = true := by
  unfold overlay
  have e : cls = cls.take r.start ++ ((cls.take r.stop).drop r.start ++ cls.drop r.stop) := by
    have h1 : cls.take r.start = (cls.take r.stop).take r.start := by
      rw [List.take_take, Nat.min_eq_left hr]
    rw [h1, ← List.append_assoc, List.take_append_drop, List.take_append_drop]
  have goal := fitsClasses_append (fitsClasses_take r.start hb)
    (fitsClasses_append hv (fitsClasses_drop r.stop hb))
  rw [← e] at goal
  rw [List.append_assoc]
  exact goal

def clsAt (cls : List SClass) (r : Range) : List SClass := (cls.take r.stop).drop r.start

theorem keyClasses_eq {e : Country} {l : List (Nat × SClass)} (hps : parseSpec e.bbanSpec = some l) :
    keyClasses e = some ((e.bicLookup.getD [.bankCode]).flatMap
      (fun k => clsAt (expandSpec l) (e.range k))) := by
  unfold keyClasses; rw [hps]; rfl

theorem published_of_nonempty_cls {e : Country} {cls : List SClass} {k : Component}
    (h : clsAt cls (e.range k) ≠ []) : ∃ r, publishedAt e k r := by
  cases hq : (e.positions.getD []).lookup k with
  | some r => exact ⟨r, hq⟩
  | none =>
    rw [range_unpublished hq] at h
    simp [clsAt] at h

theorem fits_overlayAll {e : Country} (hW : e.WF) {cls : List SClass} (c : Comps) :
    ∀ (ks : List Component) (b : Str),
      (∀ k ∈ ks, (e.range k).isEmpty = false → fitsClasses (clsAt cls (e.range k)) (c k) = true) →
      fitsClasses cls b = true → fitsClasses cls (overlayAll e c ks b) = true
  | [], _, _, hb => hb
  | k :: t, b, hc, hb => by
    have ih := fun b' => fits_overlayAll hW c t b' (fun k' hk' => hc k' (List.mem_cons_of_mem _ hk'))
    cases hk : (e.range k).isEmpty with
    | true => simp only [overlayAll, hk, ↓reduceIte]; exact ih b hb
    | false =>
      simp only [overlayAll, hk, Bool.false_eq_true, ↓reduceIte]
      exact ih _ (fits_overlay hb (hW.range_le k).1 (hc k List.mem_cons_self hk))

/-- The piece of `code` that belongs to component `j` when the components `ks` share it out in
    order, each taking the width of its field. -/
def pieceOf (e : Country) : List Component → Str → Component → Str
  | [], _, _ => []
  | k :: t, code, j =>
    if j = k then code.take (e.range k).length else pieceOf e t (code.drop (e.range k).length) j

theorem join_pieces (e : Country) : ∀ (ks : List Component) (code : Str), ks.Nodup →
    code.length = (ks.map (fun k => (e.range k).length)).sum →
    joinStrs (ks.map (pieceOf e ks code)) = code
  | [], code, _, h => by
    simp at h
    simp [joinStrs, h]
  | k :: t, code, hnd, h => by
    have hnd' := List.nodup_cons.mp hnd
    simp only [List.map_cons, List.sum_cons] at h
    have ht : t.map (pieceOf e (k :: t) code) = t.map (pieceOf e t (code.drop (e.range k).length)) := by
      apply List.map_congr_left
      intro j hj
      have : j ≠ k := fun hjk => hnd'.1 (hjk ▸ hj)
      simp [pieceOf, this]
    have := join_pieces e t (code.drop (e.range k).length) hnd'.2 (by rw [List.length_drop]; omega)
    simp only [joinStrs] at this
    simp only [List.map_cons, joinStrs, List.flatten_cons]
    rw [ht, this]
    simp only [pieceOf, if_true, List.take_append_drop]

theorem pieces_fit (e : Country) (cls : List SClass) : ∀ (ks : List Component) (code : Str),
    (∀ k ∈ ks, (clsAt cls (e.range k)).length = (e.range k).length) →
    fitsClasses (ks.flatMap (fun k => clsAt cls (e.range k))) code = true →
    ∀ j ∈ ks, fitsClasses (clsAt cls (e.range j)) (pieceOf e ks code j) = true
  | [], _, _, _, j, hj => by cases hj
  | k :: t, code, hw, hf, j, hj => by
    simp only [List.flatMap_cons] at hf
    have hwk := hw k (by simp)
    have h1 := fitsClasses_take (e.range k).length hf
    have h2 := fitsClasses_drop (e.range k).length hf
    rw [List.take_append_of_le_length (by omega), List.take_of_length_le (by omega)] at h1
    rw [List.drop_append_of_le_length (by omega), List.drop_of_length_le (by omega),
      List.nil_append] at h2
    by_cases hjk : j = k
    · subst hjk; simp only [pieceOf, if_true]; exact h1
    · simp only [pieceOf, hjk, if_false]
      exact pieces_fit e cls t _ (fun k' hk' => hw k' (by simp [hk'])) h2 j
        ((List.mem_cons.mp hj).resolve_left hjk)

theorem clsAt_length {e : Country} (hW : e.WF) {cls : List SClass} (hcl : cls.length = e.bbanLength)
    (k : Component) : (clsAt cls (e.range k)).length = (e.range k).length := by
  have := hW.range_le k
  simp only [clsAt, List.length_drop, List.length_take, Range.length]
  omega

/-- **Reachability.**  For a well-formed country entry whose bank-identifying components are
    distinct published fields, every key that fits the classes of those fields occurs in a BBAN that
    fits the country's structure, and the key read off that BBAN is the key. -/
theorem reachable {e : Country} (hW : e.WF) {l : List (Nat × SClass)}
    (hps : parseSpec e.bbanSpec = some l)
    (hnd : (e.bicLookup.getD [.bankCode]).Nodup)
    (hpub : ∀ k ∈ e.bicLookup.getD [.bankCode], ∃ r, publishedAt e k r)
    {code : Str}
    (hf : fitsClasses ((e.bicLookup.getD [.bankCode]).flatMap
      (fun k => clsAt (expandSpec l) (e.range k))) code = true) :
    ∃ b, fits e b = true ∧ b.length = e.bbanLength ∧ lookupKey e b = code := by
  obtain ⟨l', hps', hexp⟩ := hW.parse
  rw [hps] at hps'; cases hps'
  generalize hL : e.bicLookup.getD [.bankCode] = L at hnd hpub hf
  let cls := expandSpec l
  have hcl : cls.length = e.bbanLength := hexp
  have hpf := pieces_fit e cls L code (fun k _ => clsAt_length hW hcl k) hf
  -- write the pieces of the key into a string that fits the structure
  have ⟨hlen, hsame, _⟩ := overlayAll_spec hW (pieceOf e L code) L (cls.map fillChar) hnd
    (by rw [List.length_map]; exact hcl)
    (fun k hk _ => by rw [fitsClasses_length (hpf k hk), clsAt_length hW hcl k])
  refine ⟨overlayAll e (pieceOf e L code) L (cls.map fillChar), ?_, hlen, ?_⟩
  · rw [fits_of_parse hps]
    exact fits_overlayAll hW _ L _ (fun k hk _ => hpf k hk) (fits_filler cls)
  · have hcode : code.length = (L.map fun k => (e.range k).length).sum := by
      rw [fitsClasses_length hf, List.length_flatMap]
      congr 1
      exact List.map_congr_left fun k _ => clsAt_length hW hcl k
    -- each field of the key reads back its piece (`hsame`), and the pieces spell `code`
    rw [lookupKey_eq hW hlen, hL, List.map_congr_left (g := pieceOf e L code) fun k hk =>
      (hpub k hk).elim fun _ hp => hsame k hk (hW.range_isEmpty hp)]
    exact join_pieces e L code hnd hcode

end SV
