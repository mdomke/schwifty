/-
  `clean` (whitespace removal + upper-casing) under the decidable well-formedness facts of the
  interpreter's Unicode tables (`Unicode.WF`): its results are the compact forms (`Compact`), on
  which it is the identity.
-/
import SV.Model.Unicode
import SV.Proofs.Ascii
namespace SV

/-- Decidable facts about the Unicode tables that the generic theorems need.  They are
    discharged for the regenerated tables by kernel evaluation (`Gen` instance obligations). -/
structure Unicode.WF (U : Unicode) : Prop where
  lower : ∀ c ∈ List.range 26, U.upperMap.lookup (c + 97) = some [c + 65]
  fixedUpper : ∀ c ∈ List.range 26, U.upperMap.lookup (c + 65) = none
  fixedDigit : ∀ c ∈ List.range 10, U.upperMap.lookup (c + 48) = none
  image : ∀ p ∈ U.upperMap, ∀ x ∈ p.2,
    U.isSpace x = false ∧ isAsciiLower x = false ∧ U.upperMap.lookup x = none
  space : U.isSpace 32 = true
  /-- So that a compact form never ends in the newline Python's `$` tolerates. -/
  newline : U.isSpace 10 = true
  /-- ASCII digits are `\d` with their own value. -/
  digits : ∀ c ∈ List.range 10,
    U.digitZeros.find? (fun z => z ≤ c + 48 && c + 48 ≤ z + 9) = some 48
  /-- `int()` accepts at least 100 digits: room for the 68 that `numerify` can meet (an IBAN has at
      most 34 characters, a letter expands to two digits) and the cap `NatAlgo.classSafe` puts on a
      French field.  CPython's default limit is 4300. -/
  maxInt : 100 ≤ U.maxIntDigits
  noLetterDigit : ∀ c ∈ List.range 26, U.isDigit (c + 65) = false
  alnumNotSpace : ∀ c ∈ List.range 75, U.isSpace (c + 48) = false

/-- Boolean form of `Unicode.WF`, arranged for cheap kernel evaluation: `km` / `sm` are bit
    masks (bit `c` set for every key of `upperMap` / every whitespace code point), supplied by
    the translator.  Only "every listed code point has its bit set" is needed of them — it is
    checked here — so they are not trusted. -/
def Unicode.wfb (U : Unicode) (km sm : Nat) : Bool :=
  U.upperMap.all (fun p => Nat.testBit km p.1) &&
  U.spaces.all (fun w => Nat.testBit sm w) &&
  (List.range 26).all (fun c => U.upperMap.lookup (c + 97) == some [c + 65]) &&
  (List.range 26).all (fun c => !Nat.testBit km (c + 65)) &&
  (List.range 10).all (fun c => !Nat.testBit km (c + 48)) &&
  U.upperMap.all (fun p => p.2.all (fun x =>
    !Nat.testBit sm x && !isAsciiLower x && !Nat.testBit km x)) &&
  U.isSpace 32 && U.isSpace 10 &&
  (List.range 10).all (fun c =>
    U.digitZeros.find? (fun z => z ≤ c + 48 && c + 48 ≤ z + 9) == some 48) &&
  decide (100 ≤ U.maxIntDigits) &&
  (List.range 26).all (fun c => U.isDigit (c + 65) == false) &&
  (List.range 75).all (fun c => !Nat.testBit sm (c + 48))

theorem lookup_none_of_mask {m : List (Nat × List Nat)} {km x : Nat}
    (hk : ∀ p ∈ m, Nat.testBit km p.1 = true) (hx : Nat.testBit km x = false) :
    m.lookup x = none := by
  induction m with
  | nil => rfl
  | cons p t ih =>
    obtain ⟨k, v⟩ := p
    have hne : (x == k) = false := beq_eq_false_iff_ne.mpr fun e => by
      have := hk (k, v) List.mem_cons_self
      rw [← e, hx] at this; cases this
    simp only [List.lookup, hne]
    exact ih (fun p hp => hk p (by simp [hp]))

theorem isSpace_false_of_mask {U : Unicode} {sm x : Nat}
    (hs : ∀ w ∈ U.spaces, Nat.testBit sm w = true) (hx : Nat.testBit sm x = false) :
    U.isSpace x = false :=
  Bool.eq_false_iff.mpr fun h => by
    have := hs x (List.contains_iff_mem.mp h)
    rw [hx] at this; cases this

theorem Unicode.wf_of_wfb {U : Unicode} {km sm : Nat} (h : U.wfb km sm = true) : U.WF := by
  simp only [Unicode.wfb, Bool.and_eq_true, List.all_eq_true, beq_iff_eq, Bool.not_eq_true'] at h
  obtain ⟨⟨⟨⟨⟨⟨⟨⟨⟨⟨⟨keyBits, spaceBits⟩, lower⟩, upperBit⟩, digitBit⟩, imageBits⟩, space⟩, newline⟩,
    digits⟩, maxInt⟩, noLetterDigit⟩, alnumBit⟩ := h
  exact ⟨lower, fun c hc => lookup_none_of_mask keyBits (upperBit c hc),
    fun c hc => lookup_none_of_mask keyBits (digitBit c hc),
    fun p hp x hx => by
      have := imageBits p hp x hx
      exact ⟨isSpace_false_of_mask spaceBits this.1.1, this.1.2, lookup_none_of_mask keyBits this.2⟩,
    space, newline, digits, by simpa using maxInt, noLetterDigit,
    fun c hc => isSpace_false_of_mask spaceBits (alnumBit c hc)⟩

/-- The fields of `Unicode.WF` quantify over `List.range n` with an offset so that they can be
    decided; this turns such a field into a statement about an interval.  (`elab_as_elim`: the
    motive `P` has to be read off the expected type, `c + k` is no pattern.) -/
@[elab_as_elim]
theorem range_shift {P : Nat → Prop} {k : Nat} (n : Nat) (h : ∀ c ∈ List.range n, P (c + k))
    {x : Nat} (h1 : k ≤ x) (h2 : x < k + n) : P x := by
  have := h (x - k) (by simp; omega)
  rwa [Nat.sub_add_cancel h1] at this

namespace Unicode.WF
variable {U : Unicode} (hU : U.WF)
include hU

theorem lookup_lower {c : Nat} (h : isAsciiLower c = true) : U.upperMap.lookup c = some [c - 32] := by
  have h := isAsciiLower_iff.mp h
  have := hU.lower (c - 97) (by simp; omega)
  rwa [show c - 97 + 97 = c by omega, show c - 97 + 65 = c - 32 by omega] at this

theorem lookup_alnum {c : Nat} (h : isAsciiAlnumUpper c = true) : U.upperMap.lookup c = none := by
  rcases isAsciiAlnumUpper_iff.mp h with h | h
  · exact range_shift 10 hU.fixedDigit h.1 (by omega)
  · exact range_shift 26 hU.fixedUpper h.1 (by omega)

theorem upper_lower {c : Nat} (h : isAsciiLower c = true) : U.upper c = [c - 32] := by
  rw [Unicode.upper, hU.lookup_lower h]

theorem upper_alnum {c : Nat} (h : isAsciiAlnumUpper c = true) : U.upper c = [c] := by
  rw [Unicode.upper, hU.lookup_alnum h]

theorem not_space {c : Nat} (h1 : 48 ≤ c) (h2 : c ≤ 122) : U.isSpace c = false :=
  range_shift 75 hU.alnumNotSpace h1 (by omega)

theorem find_digit {c : Nat} (h : isAsciiDigit c = true) :
    U.digitZeros.find? (fun z => z ≤ c && c ≤ z + 9) = some 48 :=
  have h := isAsciiDigit_iff.mp h
  range_shift 10 hU.digits h.1 (by omega)

theorem isDigit_ascii {c : Nat} (h : isAsciiDigit c = true) : U.isDigit c = true := by
  have := hU.find_digit h
  exact List.any_eq_true.mpr ⟨48, List.mem_of_find?_eq_some this,
    List.find?_some (p := fun z => decide (z ≤ c) && decide (c ≤ z + 9)) this⟩

theorem intChar_ascii {c : Nat} (h : isAsciiDigit c = true) : U.intChar c = .ok (c - 48) := by
  rw [Unicode.intChar, hU.find_digit h]

theorem not_isDigit_upper {c : Nat} (h : isAsciiUpper c = true) : U.isDigit c = false :=
  have h := isAsciiUpper_iff.mp h
  range_shift 26 hU.noLetterDigit h.1 (by omega)

end Unicode.WF

variable {U : Unicode}

theorem clean_append (s t : Str) : clean U (s ++ t) = clean U s ++ clean U t := by
  simp [clean, List.filter_append, List.flatMap_append]

theorem clean_cons_space {w : Nat} (hw : U.isSpace w = true) (s : Str) :
    clean U (w :: s) = clean U s := by
  simp [clean, hw]

theorem clean_cons_nonspace {c : Nat} (hc : U.isSpace c = false) (s : Str) :
    clean U (c :: s) = U.upper c ++ clean U s := by
  simp [clean, hc]

/-- `c` is a compact form: no whitespace, no ASCII lower case, every code point a fixed point of
    `upper` — what `clean` produces. -/
def Compact (U : Unicode) (c : Str) : Prop :=
  ∀ x ∈ c, U.isSpace x = false ∧ isAsciiLower x = false ∧ U.upper x = [x]

theorem upper_image (hU : U.WF) {c x : Nat} (hx : x ∈ U.upper c) :
    (U.isSpace c = false → U.isSpace x = false) ∧ isAsciiLower x = false ∧ U.upper x = [x] := by
  unfold Unicode.upper at hx ⊢
  cases hn : U.upperMap.lookup c with
  | none =>
    obtain rfl : x = c := by simpa [hn] using hx
    refine ⟨id, ?_, by rw [hn]⟩
    cases hlow : isAsciiLower x with
    | false => rfl
    | true => rw [hU.lookup_lower hlow] at hn; cases hn
  | some v =>
    have := hU.image (c, v) (List.mem_of_lookup hn) x (by simpa [hn] using hx)
    exact ⟨fun _ => this.1, this.2.1, by rw [this.2.2]⟩

theorem compact_clean (hU : U.WF) (s : Str) : Compact U (clean U s) := by
  intro x hx
  simp only [clean, List.mem_flatMap, List.mem_filter] at hx
  obtain ⟨c, ⟨_, hc⟩, hxc⟩ := hx
  have := upper_image hU hxc
  exact ⟨this.1 (by simpa using hc), this.2⟩

theorem clean_of_compact {c : Str} (h : Compact U c) : clean U c = c := by
  induction c with
  | nil => rfl
  | cons a t ih =>
    have ha := h a (by simp)
    rw [clean_cons_nonspace ha.1, ha.2.2, ih (fun x hx => h x (by simp [hx]))]
    rfl

theorem compact_drop {c : Str} (h : Compact U c) (n : Nat) : Compact U (c.drop n) :=
  fun x hx => h x (List.mem_of_mem_drop hx)

theorem compact_take {c : Str} (h : Compact U c) (n : Nat) : Compact U (c.take n) :=
  fun x hx => h x (List.mem_of_mem_take hx)

theorem compact_append {a b : Str} (ha : Compact U a) (hb : Compact U b) : Compact U (a ++ b) := by
  intro x hx
  rcases List.mem_append.mp hx with h | h
  · exact ha x h
  · exact hb x h

theorem compact_of_allAlnum (hU : U.WF) {s : Str} (h : allAlnum s = true) : Compact U s := by
  intro x hx
  have hx' : isAsciiAlnumUpper x = true := List.all_eq_true.mp h x hx
  have := isAsciiAlnumUpper_iff.mp hx'
  exact ⟨hU.not_space (by omega) (by omega), alnum_not_lower hx', hU.upper_alnum hx'⟩

theorem clean_of_allAlnum (hU : U.WF) {s : Str} (h : allAlnum s = true) : clean U s = s :=
  clean_of_compact (compact_of_allAlnum hU h)

theorem compact_nil : Compact U [] := fun _ h => by cases h

theorem compact_zeros (hU : U.WF) (n : Nat) : Compact U (List.replicate n 48) :=
  compact_of_allAlnum hU (by simp [allAlnum, isAsciiAlnumUpper, isAsciiDigit])

theorem compact_zfill (hU : U.WF) {s : Str} (h : Compact U s) (w : Nat) : Compact U (zfill s w) :=
  fun x hx => (mem_zfill hx).elim (h x) fun e => e ▸ compact_zeros hU 1 48 List.mem_cons_self

theorem compact_slice {s : Str} (h : Compact U s) (a b : Nat) : Compact U (slice s a b) :=
  compact_drop (compact_take h b) a

theorem clean_idem (hU : U.WF) (s : Str) : clean U (clean U s) = clean U s :=
  clean_of_compact (compact_clean hU s)

theorem clean_drop (hU : U.WF) (s : Str) (n : Nat) : clean U ((clean U s).drop n) = (clean U s).drop n :=
  clean_of_compact (compact_drop (compact_clean hU s) n)

theorem not_mem_compact (hU : U.WF) {c : Str} (hc : Compact U c) : (32 : Nat) ∉ c ∧ (10 : Nat) ∉ c :=
  ⟨fun h => Bool.noConfusion (hU.space.symm.trans (hc 32 h).1),
   fun h => Bool.noConfusion (hU.newline.symm.trans (hc 10 h).1)⟩

def UpperFixed (U : Unicode) (s : Str) : Prop := ∀ c ∈ s, U.upper c = [c]

theorem upperFixed_flatMap_upper (hU : U.WF) (x : Str) : UpperFixed U (x.flatMap U.upper) := by
  intro c hc
  obtain ⟨d, _, hcd⟩ := List.mem_flatMap.mp hc
  exact (upper_image hU hcd).2.2

theorem upperFixed_sub {s t : Str} (h : UpperFixed U s) (hs : ∀ c ∈ t, c ∈ s) :
    UpperFixed U t := fun c hc => h c (hs c hc)

theorem compact_upperFixed {s : Str} (h : Compact U s) : UpperFixed U s :=
  fun c hc => (h c hc).2.2

theorem clean_length_le : ∀ {s : Str}, UpperFixed U s → (clean U s).length ≤ s.length
  | [], _ => by simp [clean]
  | c :: t, h => by
    have ih := clean_length_le (s := t) (fun x hx => h x (by simp [hx]))
    by_cases hsp : U.isSpace c = true
    · rw [clean_cons_space hsp]; simp only [List.length_cons]; omega
    · rw [clean_cons_nonspace (by simpa using hsp), h c (by simp)]
      simp only [List.length_append, List.length_cons, List.length_nil]; omega

def flipCase (c : Nat) : Nat :=
  if isAsciiLower c then c - 32 else if isAsciiUpper c then c + 32 else c

theorem flipCase_alike (hU : U.WF) (c : Nat) :
    U.isSpace (flipCase c) = U.isSpace c ∧ U.upper (flipCase c) = U.upper c := by
  unfold flipCase
  split
  · next hl =>
    have := isAsciiLower_iff.mp hl
    rw [hU.not_space (c := c) (by omega) (by omega), hU.not_space (by omega) (by omega),
      hU.upper_lower hl, hU.upper_alnum (isAsciiAlnumUpper_iff.mpr (by omega))]
    exact ⟨rfl, rfl⟩
  · split
    · next hu =>
      have := isAsciiUpper_iff.mp hu
      rw [hU.not_space (c := c) (by omega) (by omega), hU.not_space (by omega) (by omega),
        hU.upper_lower (isAsciiLower_iff.mpr (by omega)),
        hU.upper_alnum (isAsciiAlnumUpper_iff.mpr (by omega)), Nat.add_sub_cancel]
      exact ⟨rfl, rfl⟩
    · exact ⟨rfl, rfl⟩

/-- `t` is `s` with the case of some ASCII letters flipped. -/
inductive CaseVariant : Str → Str → Prop
  | nil : CaseVariant [] []
  | same (c : Nat) {s t : Str} : CaseVariant s t → CaseVariant (c :: s) (c :: t)
  | flip (c : Nat) {s t : Str} : CaseVariant s t → CaseVariant (c :: s) (flipCase c :: t)

end SV
