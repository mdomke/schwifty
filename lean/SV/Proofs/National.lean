/-
  `validate_national_checksum` in normal form (which key is looked up, what a registered algorithm
  is asked), the dispatch to `<country>:default` read off it, and the ISO 7064 families (fields that
  tile a prefix of the BBAN, two check characters after it).
-/
import SV.Proofs.Numerify
import SV.Proofs.Str
import SV.Proofs.BankLookup
import SV.Model.National
namespace SV
open Spec

namespace NatAlgo
variable (U : Unicode) (cs : List Str) (ex : Str)

-- One equation per class, so that no proof has to unfold the twelve-way `match` of `NatAlgo.compute`
-- and `NatAlgo.validate`: Lean would generate its equation lemmas anew in every module that does.
theorem compute_fr : fr.compute U cs = frCompute U cs := rfl
theorem compute_es : es.compute U cs = esCompute U cs := rfl
theorem compute_pl : pl.compute U cs = plCompute U cs := rfl
theorem compute_ee : ee.compute U cs = eeCompute U cs := rfl
theorem compute_is : is_.compute U cs = isCompute U cs := rfl
theorem compute_no : no.compute U cs = noCompute U cs := rfl
theorem compute_fi : fi.compute U cs = fiCompute cs := rfl
theorem compute_it : it.compute U cs = itCompute U cs := rfl

theorem validate_czsk : czsk.validate U cs ex = czValidate U cs := rfl
theorem validate_is : is_.validate U cs ex = isValidate U cs := rfl

end NatAlgo

theorem NatAlgo.validate_inherited (U : Unicode) {n : NatAlgo} (h1 : n ≠ .czsk) (h2 : n ≠ .is_)
    (cs : List Str) (ex : Str) :
    n.validate U cs ex = (n.compute U cs).bind (fun c => .ok (ex == c)) := by
  simp only [beq_str_comm ex]
  cases n <;> first | rfl | contradiction

/-- `algo_name` of `validate_national_checksum`: `checksum_algo` of the first bank entry listed
    under the BBAN's bank code, else `"default"`. -/
def algoNameOf (X : Ctx) (cc : Str) (e : Country) (b : Str) : Str :=
  match X.R.byBankCode cc (lookupKey e b) with
  | some (entry :: _) => entry.checksumAlgo.getD strDefault
  | _ => strDefault

/-- `validate_national_checksum` once `algo` is found: `False` is raised as `InvalidBBANChecksum`. -/
def algoVerdict (X : Ctx) (e : Country) (b : Str) (a : AlgoEntry) : Res Bool :=
  (a.ref.validate X.U (componentsOf e b a.accepts)
    (getSlice b (e.range .nationalChecksumDigits).start
      (some (e.range .nationalChecksumDigits).stop))).bind
    (fun ok => if ok then .ok true else .err .invalidBBANChecksum)

theorem validateNational_eq (X : Ctx) {cc b : Str} {e : Country} (hl : X.T.lookup cc = some e) :
    BBAN.validateNational X cc b =
      match X.A.get (cc ++ [colon] ++ algoNameOf X cc e b) with
      | none => .ok true
      | some a => algoVerdict X e b a := by
  unfold BBAN.validateNational BBAN.bank bbanSpec algoNameOf
  rw [hl]
  simp only [Res.ok_bind]
  -- no list under the bank code, an empty one, a first entry `x`; then the key registered or not
  rcases X.R.byBankCode cc (lookupKey e b) with _ | _ | ⟨x, _⟩ <;>
    simp only [Res.pure_eq, Res.ok_bind] <;> generalize X.A.get _ = g <;> cases g <;> rfl

/-- `"<country>:default"`. -/
def defaultKey (cc : Str) : Str := cc ++ [colon] ++ strDefault

theorem AlgoTable.get_mem {A : AlgoTable} {k : Str} {a : AlgoEntry} (h : A.get k = some a) :
    a ∈ A ∧ a.key = k :=
  ⟨List.mem_of_find?_eq_some h, by simpa using List.find?_some h⟩

/-- No bank entry of the country carries `checksum_algo`: `validate_national_checksum` falls back
    to `"default"` for every bank code. -/
abbrev Registry.NoMethod (R : Registry) (cc : Str) : Prop :=
  ∀ x ∈ R, x.countryCode = cc → x.checksumAlgo = none

theorem algoNameOf_default (X : Ctx) {cc : Str} (e : Country) (b : Str)
    (hR : X.R.NoMethod cc) :
    algoNameOf X cc e b = strDefault := by
  unfold algoNameOf
  split
  · next x t hb =>
    have hx := (Registry.mem_byBankCode hb).mp List.mem_cons_self
    rw [hR x hx.1 hx.2.1]; rfl
  · rfl

/-- **Dispatch**: with no method named by the registry, national validation looks up
    `<country>:default`; an unregistered country is accepted, otherwise the registered algorithm
    judges the fields it declares (sliced at the published positions) against the check-digit
    field. -/
theorem validateNational_dispatch (X : Ctx) {cc b : Str} {e : Country}
    (hl : X.T.lookup cc = some e)
    (hR : X.R.NoMethod cc) :
    BBAN.validateNational X cc b =
      match X.A.get (defaultKey cc) with
      | none => .ok true
      | some a =>
        (a.ref.validate X.U (componentsOf e b a.accepts)
          (getSlice b (e.range .nationalChecksumDigits).start
            (some (e.range .nationalChecksumDigits).stop))).bind
          (fun ok => if ok then .ok true else .err .invalidBBANChecksum) := by
  rw [validateNational_eq X hl, algoNameOf_default X e b hR]
  rfl

/-- The declared fields, in order, are adjacent and cover exactly `b[0:n]` (fields the country
    does not publish contribute the empty string). -/
def coversPrefix (e : Country) : List Component → Nat → Nat → Bool
  | [], p, n => p == n
  | k :: t, p, n =>
    let r := e.range k
    if r.start == 0 && r.stop == 0 then coversPrefix e t p n
    else r.start == p && decide (p < r.stop) && coversPrefix e t r.stop n

theorem coversPrefix_le (e : Country) : ∀ (ks : List Component) (p n : Nat),
    coversPrefix e ks p n = true → p ≤ n
  | [], p, n, h => by simp [coversPrefix] at h; omega
  | k :: t, p, n, h => by
    simp only [coversPrefix] at h
    split at h
    · exact coversPrefix_le e t p n h
    · simp only [Bool.and_eq_true, beq_iff_eq, decide_eq_true_eq] at h
      have := coversPrefix_le e t _ n h.2
      omega

theorem join_of_coversPrefix (e : Country) (b : Str) : ∀ (ks : List Component) (p n : Nat),
    coversPrefix e ks p n = true → n ≤ b.length →
    slice b 0 p ++ joinStrs (componentsOf e b ks) = slice b 0 n
  | [], p, n, h, _ => by
    simp only [coversPrefix, beq_iff_eq] at h
    subst h; simp [componentsOf, joinStrs]
  | k :: t, p, n, h, hn => by
    simp only [coversPrefix] at h
    simp only [componentsOf, joinStrs, List.flatten_cons]
    split at h
    · rename_i h0
      simp only [Bool.and_eq_true, beq_iff_eq] at h0
      rw [h0.1, h0.2, getSlice_of_le (Nat.zero_le _), show slice b 0 0 = [] from rfl, List.nil_append]
      exact join_of_coversPrefix e b t p n h hn
    · simp only [Bool.and_eq_true, beq_iff_eq, decide_eq_true_eq] at h
      obtain ⟨⟨hs, hlt⟩, hrest⟩ := h
      have hle := coversPrefix_le e t _ n hrest
      rw [getSlice_of_le (by omega), hs, ← List.append_assoc,
        slice_append_slice b 0 p _ (by omega) (by omega)]
      exact join_of_coversPrefix e b t _ n hrest hn

def AlgoRef.isNat : AlgoRef → NatAlgo → Bool
  | .nat a, b => a == b
  | _, _ => false

theorem AlgoRef.eq_of_isNat {r : AlgoRef} {a : NatAlgo} (h : r.isNat a = true) : r = .nat a := by
  cases r with
  | nat x => simp only [AlgoRef.isNat, beq_iff_eq] at h; rw [h]
  | de p => simp [AlgoRef.isNat] at h
  | unknown => simp [AlgoRef.isNat] at h

/-- Decidable description of "country `cc` uses algorithm `alg`, its declared fields tile
    `b[0:n]`, and the check digits are `b[n:n+2] = b[n:]`". -/
def prefixAlgo (T : Table) (A : AlgoTable) (alg : NatAlgo) (cc : Str) (n : Nat) : Bool :=
  match T.lookup cc, A.get (defaultKey cc) with
  | some e, some a =>
    a.ref.isNat alg && coversPrefix e a.accepts 0 n &&
    (e.range .nationalChecksumDigits == ⟨n, n + 2⟩) && e.bbanLength == n + 2 && decide (0 < n)
  | _, _ => false

theorem prefixAlgo_spec {T : Table} {A : AlgoTable} {alg : NatAlgo} {cc : Str} {n : Nat}
    (hp : prefixAlgo T A alg cc n = true) :
    ∃ e a, T.lookup cc = some e ∧ A.get (defaultKey cc) = some a ∧ a.ref = .nat alg ∧
      coversPrefix e a.accepts 0 n = true ∧ e.range .nationalChecksumDigits = ⟨n, n + 2⟩ ∧
      e.bbanLength = n + 2 ∧ 0 < n := by
  unfold prefixAlgo at hp
  split at hp
  · next e a hl ha =>
    simp only [Bool.and_eq_true, beq_iff_eq, decide_eq_true_eq] at hp
    obtain ⟨⟨⟨⟨href, hcov⟩, hnat⟩, hbl⟩, hn⟩ := hp
    exact ⟨e, a, hl, ha, AlgoRef.eq_of_isNat href, hcov, hnat, hbl, hn⟩
  · cases hp

/-- `hcomp` is all that is particular to the algorithm: what it makes of the number `N·100` that
    `pre_process` returns for the joined fields (`scale`, then `post` of the remainder, written with
    two digits). -/
theorem iso_family (X : Ctx) (alg : NatAlgo) (post : Nat → Nat) (scale : Nat → Nat)
    (hcomp : ∀ (cs : List Str) (ex : Str), alg.validate X.U cs ex =
      (isoPre X.U cs).bind (fun v => .ok (ex == fmt02 (post (scale v % 97)))))
    {cc b : Str} {n : Nat}
    (hp : prefixAlgo X.T X.A alg cc n = true)
    (hR : X.R.NoMethod cc)
    (hlen : b.length = n + 2) (hA : allAlnum b = true) (hmax : 2 * b.length ≤ X.U.maxIntDigits) :
    BBAN.validateNational X cc b =
      if b.drop n == fmt02 (post (scale (numVal (b.take n) 0 * 100) % 97)) then .ok true
      else .err .invalidBBANChecksum := by
  obtain ⟨e, a, hl, ha, href, hcov, hnat, -, hn⟩ := prefixAlgo_spec hp
  have hj : joinStrs (componentsOf e b a.accepts) = b.take n := by
    simpa [slice] using join_of_coversPrefix e b a.accepts 0 n hcov (by omega)
  have hpre : isoPre X.U (componentsOf e b a.accepts) = .ok (numVal (b.take n) 0 * 100) := by
    have hnl := numLen_le (b.take n)
    rw [List.length_take] at hnl
    rw [isoPre, hj, numerify_ok (allAlnum_take n hA)
      (List.ne_nil_of_length_pos (by rw [List.length_take]; omega)) (by omega)]
    rfl
  rw [validateNational_dispatch X hl hR, ha]
  simp only [href, hnat, AlgoRef.validate]
  rw [hcomp, hpre, getSlice_of_le (by omega), slice_to_end (by omega)]
  rfl

end SV
