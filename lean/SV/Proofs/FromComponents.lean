/-
  `BBAN.from_components` as a decision list over named intermediate values (cleaned and padded
  components, the combined bank+branch split, the computed check digits), and reading the fields of
  a BBAN of the country's length: component slices, the bank-identifying key, the `bank` lookup.
-/
import SV.Proofs.Placement
import SV.Proofs.BankLookup
import SV.Proofs.Res
namespace SV

/-- `components` after the first loop of `from_components`. -/
def padComps (X : Ctx) (e : Country) (vs : List (Component × Str)) : Comps :=
  fun k => zfill (clean X.U (valuesGet vs k)) (e.range k).length

/-- The condition of the combined bank+branch split in `from_components`. -/
def splitsB (X : Ctx) (e : Country) (vs : List (Component × Str)) : Bool :=
  (e.range .branchCode).length > 0 && clean X.U (valuesGet vs .branchCode) == [] &&
    (padComps X e vs .bankCode).length == (e.range .bankCode).length + (e.range .branchCode).length

/-- `components` after the split. -/
def splitComps (X : Ctx) (e : Country) (vs : List (Component × Str)) : Comps :=
  if splitsB X e vs then
    ((padComps X e vs).set .branchCode
      (slice (padComps X e vs .bankCode) (e.range .bankCode).length
        ((e.range .bankCode).length + (e.range .branchCode).length))).set
      .bankCode ((padComps X e vs .bankCode).take (e.range .bankCode).length)
  else padComps X e vs

/-- `if checksum: components[Component.NATIONAL_CHECKSUM_DIGITS] = checksum`. -/
def withChecksum (c : Comps) (cs : Str) : Comps :=
  if cs != [] then c.set .nationalChecksumDigits cs else c

/-- `"0" * spec["bban_length"]`. -/
def zeros (e : Country) : Str := List.replicate e.bbanLength 48

theorem fromComponents_eq (X : Ctx) (cc : Str) (vs : List (Component × Str)) :
    BBAN.fromComponents X cc vs =
      match X.T.lookup cc with
      | none => .err .invalidCountryCode
      | some e =>
        if e.positions.isNone then .err .schwifty
        else if (splitComps X e vs .bankCode).length > (e.range .bankCode).length then .err .invalidBankCode
        else if (splitComps X e vs .branchCode).length > (e.range .branchCode).length then
          .err .invalidBranchCode
        else if (splitComps X e vs .accountCode).length > (e.range .accountCode).length then
          .err .invalidAccountCode
        else (computeNationalChecksum X cc (splitComps X e vs)).bind (fun cs =>
          Res.ok (clean X.U (overlayAll e (withChecksum (splitComps X e vs) cs) Component.all (zeros e)))) := by
  unfold BBAN.fromComponents bbanSpec
  cases X.T.lookup cc with
  | none => rfl
  | some e => cases e.positions.isNone <;> rfl

theorem fromComponents_ok (X : Ctx) {cc : Str} {vs : List (Component × Str)} {b : Str}
    (h : BBAN.fromComponents X cc vs = .ok b) :
    ∃ e cs, X.T.lookup cc = some e ∧
      (splitComps X e vs .bankCode).length ≤ (e.range .bankCode).length ∧
      (splitComps X e vs .branchCode).length ≤ (e.range .branchCode).length ∧
      (splitComps X e vs .accountCode).length ≤ (e.range .accountCode).length ∧
      computeNationalChecksum X cc (splitComps X e vs) = .ok cs ∧
      b = clean X.U (overlayAll e (withChecksum (splitComps X e vs) cs) Component.all (zeros e)) := by
  rw [fromComponents_eq] at h
  cases hl : X.T.lookup cc with
  | none => rw [hl] at h; cases h
  | some e =>
    rw [hl] at h
    -- `h` excludes each of the four guards that raise
    obtain ⟨-, h⟩ := Res.ite_err_eq_ok h
    obtain ⟨h1, h⟩ := Res.ite_err_eq_ok h
    obtain ⟨h2, h⟩ := Res.ite_err_eq_ok h
    obtain ⟨h3, h⟩ := Res.ite_err_eq_ok h
    cases hc : computeNationalChecksum X cc (splitComps X e vs) with
    | ok cs =>
      rw [hc] at h; cases h
      exact ⟨e, cs, rfl, Nat.le_of_not_lt h1, Nat.le_of_not_lt h2, Nat.le_of_not_lt h3, hc, rfl⟩
    | err _ => rw [hc] at h; cases h
    | crash _ => rw [hc] at h; cases h

theorem splitsB_iff {X : Ctx} {e : Country} {vs : List (Component × Str)} :
    splitsB X e vs = true ↔
      0 < (e.range .branchCode).length ∧ clean X.U (valuesGet vs .branchCode) = [] ∧
      (padComps X e vs .bankCode).length = (e.range .bankCode).length + (e.range .branchCode).length := by
  simp only [splitsB, Bool.and_eq_true, beq_iff_eq, decide_eq_true_eq, and_assoc, gt_iff_lt]

theorem splitComps_ge (X : Ctx) (e : Country) (vs : List (Component × Str)) (k : Component) :
    (e.range k).length ≤ (splitComps X e vs k).length := by
  have hpad : ∀ k, (e.range k).length ≤ (padComps X e vs k).length := by
    intro k; unfold padComps; rw [zfill_length]; omega
  unfold splitComps
  split
  · rename_i hs
    have hs := splitsB_iff.mp hs
    simp only [Comps.set]
    split
    · rename_i hk; subst hk
      rw [List.length_take]; omega
    · split
      · rename_i hk; subst hk
        simp only [slice, List.length_drop, List.length_take]; omega
      · exact hpad k
  · exact hpad k

theorem splitComps_of_not_split (X : Ctx) (e : Country) (vs : List (Component × Str))
    (hs : splitsB X e vs = false) (k : Component) : splitComps X e vs k = padComps X e vs k := by
  unfold splitComps; rw [hs]; rfl

theorem splitComps_of_ne (X : Ctx) (e : Country) (vs : List (Component × Str)) {k : Component}
    (h1 : k ≠ .bankCode) (h2 : k ≠ .branchCode) : splitComps X e vs k = padComps X e vs k := by
  unfold splitComps
  split
  · show (if k = Component.bankCode then _ else if k = Component.branchCode then _ else _) = _
    rw [if_neg h1, if_neg h2]
  · rfl

theorem splitComps_gt_plain (X : Ctx) (e : Country) (vs : List (Component × Str))
    (hs : splitsB X e vs = false) (k : Component) :
    (splitComps X e vs k).length > (e.range k).length ↔
      (clean X.U (valuesGet vs k)).length > (e.range k).length := by
  rw [splitComps_of_not_split X e vs hs, padComps, zfill_length]; omega

theorem withChecksum_of_ne (c : Comps) (cs : Str) {k : Component} (h : k ≠ .nationalChecksumDigits) :
    withChecksum c cs k = c k := by
  unfold withChecksum
  split
  · exact if_neg h
  · rfl

theorem splitComps_fits (X : Ctx) (e : Country) (vs : List (Component × Str)) {k : Component}
    (h1 : k ≠ .bankCode) (h2 : k ≠ .branchCode)
    (h : (clean X.U (valuesGet vs k)).length ≤ (e.range k).length) :
    (splitComps X e vs k).length ≤ (e.range k).length := by
  rw [splitComps_of_ne X e vs h1 h2, padComps, zfill_length]
  omega

/-- `_get_component` cuts every field — published or not — out as `Range.cut` does. -/
theorem getSlice_range {e : Country} (hW : e.WF) {b : Str} (hb : b.length = e.bbanLength)
    (k : Component) : getSlice b (e.range k).start (some (e.range k).stop) = (e.range k).cut b :=
  getSlice_of_le (by have := (hW.range_le k).2; omega)

theorem componentsOf_cut {e : Country} (hW : e.WF) {b : Str} (hb : b.length = e.bbanLength) :
    ∀ ks : List Component, componentsOf e b ks = ks.map (fun k => (e.range k).cut b)
  | [] => rfl
  | k :: t => by rw [componentsOf, getSlice_range hW hb, componentsOf_cut hW hb t]; rfl

theorem lookupKey_eq {e : Country} (hW : e.WF) {b : Str} (hb : b.length = e.bbanLength) :
    lookupKey e b = ((e.bicLookup.getD [.bankCode]).map fun k => (e.range k).cut b).flatten := by
  rw [lookupKey, componentsOf_cut hW hb]; rfl

theorem cut_length {e : Country} (hW : e.WF) {b : Str} (hb : b.length = e.bbanLength) (k : Component) :
    ((e.range k).cut b).length = (e.range k).length := by
  have := (hW.range_le k).2
  simp only [Range.cut, Range.length, slice, List.length_drop, List.length_take]
  omega

theorem BBAN.bank_eq (X : Ctx) {cc b : Str} {e : Country} (hl : X.T.lookup cc = some e) :
    BBAN.bank X cc b = .ok ((X.R.byBankCode cc (lookupKey e b)).bind List.head?) := by
  unfold BBAN.bank bbanSpec
  rw [hl]
  simp only [Res.ok_bind]
  cases X.R.byBankCode cc (lookupKey e b) with
  | none => rfl
  | some l => cases l <;> rfl

/-- The `bank` lookup finds the first entry listed for that country and bank code, which need not
    be `x`. -/
theorem BBAN.bank_of_key (X : Ctx) {cc b : Str} {e : Country} (hl : X.T.lookup cc = some e)
    (hcc : cc ≠ []) {x : BankEntry} (hx : x ∈ X.R) (hxc : x.countryCode = cc) (hne : x.bankCode ≠ [])
    (hkey : lookupKey e b = x.bankCode) :
    ∃ y, BBAN.bank X cc b = .ok (some y) ∧ y ∈ X.R ∧ y.countryCode = cc ∧ y.bankCode = x.bankCode := by
  have hx' : x ∈ X.R.listed cc x.bankCode := Registry.mem_listed.mpr ⟨hx, hxc, rfl⟩
  cases hfl : X.R.listed cc x.bankCode with
  | nil => rw [hfl] at hx'; cases hx'
  | cons y t =>
    refine ⟨y, ?_, Registry.mem_listed.mp (hfl ▸ List.mem_cons_self)⟩
    rw [BBAN.bank_eq X hl, hkey,
      Registry.byBankCode_eq_some.mpr ⟨hcc, hne, List.cons_ne_nil y t, hfl⟩]
    rfl

end SV
