/-
  Decidable consistency of bank-registry rows against the country table, arranged for cheap kernel
  evaluation (bit masks for the two code sets; the masks are checked, not trusted).
-/
import SV.Spec.Iso13616
import SV.Spec.Iso9362
namespace SV
open Spec

/-- A bank entry as far as C17 is concerned (country comes from the chunk it is listed in). -/
structure BankRow where
  code : Str
  bic : Option Str
  deriving Repr, Inhabited, DecidableEq

/-- Index of a two-letter code in a 26×26 bit mask (out of range for anything else). -/
def ccIndex : Str → Nat
  | [a, b] => if isAsciiUpper a && isAsciiUpper b then (a - 65) * 26 + (b - 65) else 676
  | _ => 676

def ccOfIndex (i : Nat) : Str := [65 + i / 26, 65 + i % 26]

/-- Every set bit below 676 denotes a code for which `p` holds. -/
def maskSound (mask : Nat) (p : Str → Bool) : Bool :=
  (List.range 676).all (fun i => !Nat.testBit mask i || p (ccOfIndex i))

theorem ccOfIndex_ccIndex {c : Str} (h : ccIndex c < 676) : ccOfIndex (ccIndex c) = c := by
  match c with
  | [a, b] =>
    simp only [ccIndex] at h ⊢
    by_cases hu : (isAsciiUpper a && isAsciiUpper b) = true
    · simp only [hu, ↓reduceIte] at h ⊢
      simp only [isAsciiUpper, Bool.and_eq_true, decide_eq_true_eq] at hu
      simp only [ccOfIndex]
      congr 1
      · omega
      · congr 1; omega
    · simp [hu] at h
  | [] => simp [ccIndex] at h
  | [_] => simp [ccIndex] at h
  | _ :: _ :: _ :: _ => simp [ccIndex] at h

theorem mask_mem {mask : Nat} {p : Str → Bool} (hs : maskSound mask p = true) {c : Str}
    (hi : ccIndex c < 676) (hb : Nat.testBit mask (ccIndex c) = true) : p c = true := by
  simp only [maskSound, List.all_eq_true, List.mem_range, Bool.or_eq_true, Bool.not_eq_true'] at hs
  have := hs (ccIndex c) hi
  rw [ccOfIndex_ccIndex hi] at this
  rcases this with h | h
  · rw [hb] at h; cases h
  · exact h

def maskOf (l : List Str) : Nat := l.foldr (fun c m => 2 ^ ccIndex c ||| m) 0

theorem testBit_maskOf (l : List Str) (i : Nat) :
    (maskOf l).testBit i = l.any (fun c => decide (ccIndex c = i)) := by
  induction l with
  | nil => simp [maskOf]
  | cons c t ih =>
    rw [List.any_cons, ← ih]
    simp only [maskOf, List.foldr_cons, Nat.testBit_or, Nat.testBit_two_pow]

/-- One linear pass for the kernel instead of a membership scan per bit. -/
theorem maskSound_maskOf (l : List Str) : maskSound (maskOf l) (fun c => l.contains c) = true := by
  simp only [maskSound, List.all_eq_true, List.mem_range, Bool.or_eq_true, Bool.not_eq_true',
    testBit_maskOf]
  intro i hi
  cases h : l.any (fun c => decide (ccIndex c = i)) with
  | false => exact .inl rfl
  | true =>
    obtain ⟨c, hc, hci⟩ := List.any_eq_true.mp h
    have hci : ccIndex c = i := of_decide_eq_true hci
    rw [← hci, ccOfIndex_ccIndex (hci ▸ hi)]
    exact .inr (List.contains_iff_mem.mpr hc)

/-- The classes of the structure string at the positions of the `bic_lookup_components` (default:
    bank code). -/
def keyClasses (e : Country) : Option (List SClass) :=
  match parseSpec e.bbanSpec with
  | none => none
  | some l =>
    let cls := expandSpec l
    some ((e.bicLookup.getD [.bankCode]).flatMap (fun k => (cls.take (e.range k).stop).drop (e.range k).start))

/-- A BIC of the registry: absent, empty, or an 8/11-character ISO 9362 BIC whose country code has
    its bit set in `isoMask`. -/
def bicOk (isoMask : Nat) : Option Str → Bool
  | none => true
  | some b =>
    b == [] ||
    ((b.length == 8 || b.length == 11) &&
     (b.take 4).all isAlnumU && ((b.drop 4).take 2).all isAsciiUpper &&
     (decide (ccIndex ((b.drop 4).take 2) < 676) && Nat.testBit isoMask (ccIndex ((b.drop 4).take 2))) &&
     (b.drop 6).all isAlnumU)

/-- A bank code: empty, or fitting the key classes in length and character classes. -/
def codeOk (cls : List SClass) (code : Str) : Bool := code == [] || fitsClasses cls code

def rowOk (isoMask : Nat) (cls : List SClass) (r : BankRow) : Bool :=
  bicOk isoMask r.bic && codeOk cls r.code

/-- A chunk of rows of one country. -/
structure BankChunk where
  country : Str
  /-- the key classes, as a literal; checked against the table once per chunk -/
  cls : List SClass
  rows : List BankRow

def chunkOk (T : Table) (isoMask : Nat) (c : BankChunk) : Bool :=
  (match T.lookup c.country with
   | some e => keyClasses e == some c.cls
   | none => false) &&
  c.rows.all (rowOk isoMask c.cls)

theorem iso9362_of_bicOk {iso : List Str} {isoMask : Nat}
    (hs : maskSound isoMask (fun c => iso.contains c) = true) {b : Str} (hne : b ≠ [])
    (h : bicOk isoMask (some b) = true) : iso9362 iso false b = true := by
  have hne' : (b == []) = false := by simpa using hne
  simp only [bicOk, hne', Bool.false_or, Bool.and_eq_true, decide_eq_true_eq] at h
  obtain ⟨⟨⟨⟨hlen, h4⟩, hcc⟩, hmask⟩, hrest⟩ := h
  have hin := mask_mem hs hmask.1 hmask.2
  simp only [iso9362, Bool.and_eq_true]
  refine ⟨⟨⟨⟨⟨hlen, by simpa using h4⟩, hcc⟩, hin⟩, ?_⟩, ?_⟩
  · simp only [List.all_eq_true] at hrest ⊢
    intro c hc
    exact hrest c (List.mem_of_mem_take hc)
  · simp only [List.all_eq_true] at hrest ⊢
    intro c hc
    have e : b.drop 8 = (b.drop 6).drop 2 := by simp
    rw [e] at hc
    exact hrest c (List.mem_of_mem_drop hc)

end SV
