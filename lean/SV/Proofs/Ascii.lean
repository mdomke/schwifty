/-
  The ASCII classes of `SV.Model.Basic` as intervals, and texts all of whose characters are digits
  (`allDigits`) or digits and capital letters (`allAlnum`): closed under everything that only
  rearranges or drops characters.
-/
import SV.Model.Basic
import SV.Proofs.Str
namespace SV

theorem isAsciiDigit_iff {c : Nat} : isAsciiDigit c = true ↔ 48 ≤ c ∧ c ≤ 57 := by
  simp [isAsciiDigit]
theorem isAsciiUpper_iff {c : Nat} : isAsciiUpper c = true ↔ 65 ≤ c ∧ c ≤ 90 := by
  simp [isAsciiUpper]
theorem isAsciiLower_iff {c : Nat} : isAsciiLower c = true ↔ 97 ≤ c ∧ c ≤ 122 := by
  simp [isAsciiLower]
theorem isAsciiAlnumUpper_iff {c : Nat} :
    isAsciiAlnumUpper c = true ↔ (48 ≤ c ∧ c ≤ 57) ∨ (65 ≤ c ∧ c ≤ 90) := by
  simp [isAsciiAlnumUpper, isAsciiDigit_iff, isAsciiUpper_iff]

theorem isAsciiAlnumUpper_or {c : Nat} :
    isAsciiAlnumUpper c = true ↔ isAsciiDigit c = true ∨ isAsciiUpper c = true := by
  simp [isAsciiAlnumUpper]

theorem not_digit_of_upper {c : Nat} (h : isAsciiUpper c = true) : isAsciiDigit c = false :=
  Bool.eq_false_iff.mpr fun hd => by
    have := isAsciiUpper_iff.mp h; have := isAsciiDigit_iff.mp hd; omega

theorem alnum_not_lower {x : Nat} (h : isAsciiAlnumUpper x = true) : isAsciiLower x = false :=
  Bool.eq_false_iff.mpr fun hl => by
    have := isAsciiAlnumUpper_iff.mp h; have := isAsciiLower_iff.mp hl; omega

def allAlnum (s : Str) : Bool := s.all isAsciiAlnumUpper

theorem allAlnum_append (a b : Str) : allAlnum (a ++ b) = (allAlnum a && allAlnum b) := by
  simp [allAlnum, List.all_append]

theorem allAlnum_rotate (c : Str) (n : Nat) : allAlnum (c.drop n ++ c.take n) = allAlnum c := by
  rw [allAlnum_append, Bool.and_comm, ← allAlnum_append, List.take_append_drop]

theorem allAlnum_take {a : Str} (n : Nat) (h : allAlnum a = true) : allAlnum (a.take n) = true :=
  all_of_subset (fun _ => List.mem_of_mem_take) h

def allDigits (s : Str) : Bool := s.all isAsciiDigit

theorem allDigits_append (a b : Str) : allDigits (a ++ b) = (allDigits a && allDigits b) := by
  simp [allDigits, List.all_append]

theorem allDigits_drop {s : Str} (n : Nat) (h : allDigits s = true) : allDigits (s.drop n) = true :=
  all_of_subset (fun _ => List.mem_of_mem_drop) h

theorem allDigits_slice {b : Str} (s t : Nat) (h : allDigits b = true) :
    allDigits (slice b s t) = true := all_of_subset (fun _ => slice_mem) h

theorem allDigits_reverse {s : Str} (h : allDigits s = true) : allDigits s.reverse = true :=
  (List.all_reverse ..).trans h

theorem allAlnum_slice {b : Str} (s t : Nat) (h : allAlnum b = true) :
    allAlnum (slice b s t) = true := all_of_subset (fun _ => slice_mem) h

theorem natToDigits_allDigits (n : Nat) : allDigits (natToDigits n) = true := by
  simp only [allDigits, natToDigits, List.all_map, List.all_eq_true, Function.comp]
  intro c hc
  have := Nat.isDigit_of_mem_toDigits (by decide) (by decide) hc
  simp only [Char.isDigit, Bool.and_eq_true, decide_eq_true_eq] at this
  simp only [isAsciiDigit, Bool.and_eq_true, decide_eq_true_eq]
  exact ⟨this.1, this.2⟩

theorem allAlnum_of_allDigits {s : Str} (h : allDigits s = true) : allAlnum s = true :=
  List.all_eq_true.mpr fun x hx => isAsciiAlnumUpper_or.mpr (.inl (List.all_eq_true.mp h x hx))

end SV
