/-
  One field written, `bban[:start] + value + bban[end:]`; the fields `Country.range` of a well-formed
  entry (inside the BBAN, pairwise disjoint, `[0,0)` when unpublished); and every component written
  by `from_components` is read back at its field, whatever the other components are.
-/
import SV.Model.Bban
import SV.Proofs.Clean
import SV.Proofs.TableWF
namespace SV

theorem overlay_length_add (b : Str) (r : Range) (v : Str) (hb : r.stop ≤ b.length) (hr : r.start ≤ r.stop) :
    (overlay b r v).length + (r.stop - r.start) = b.length + v.length := by
  unfold overlay
  simp only [List.length_append, List.length_take, List.length_drop]
  omega

theorem overlay_slice_same (b : Str) (r : Range) (v : Str) (hb : r.stop ≤ b.length)
    (hr : r.start ≤ r.stop) (hv : v.length = r.stop - r.start) :
    slice (overlay b r v) r.start r.stop = v := by
  unfold overlay
  have h1 : (b.take r.start).length = r.start := by rw [List.length_take]; omega
  have := slice_mid (b.take r.start) v (b.drop r.stop)
  rwa [h1, hv, Nat.add_sub_of_le hr] at this

theorem overlay_slice_other (b : Str) (r q : Range) (v : Str) (hb : r.stop ≤ b.length)
    (hr : r.start ≤ r.stop) (hv : v.length = r.stop - r.start)
    (hd : q.stop ≤ r.start ∨ r.stop ≤ q.start) :
    slice (overlay b r v) q.start q.stop = slice b q.start q.stop := by
  unfold overlay slice
  rcases hd with h | h
  · have h1 : (b.take r.start).length = r.start := by rw [List.length_take]; omega
    rw [List.append_assoc, List.take_append_of_le_length (by omega), List.take_take,
      Nat.min_eq_left h]
  · have hlen : (b.take r.start ++ v).length = r.stop := by
      rw [List.length_append, List.length_take, hv]; omega
    rw [List.drop_take, List.drop_take, List.drop_append (l₁ := b.take r.start ++ v),
      List.drop_of_length_le (hlen ▸ h), hlen, List.nil_append, List.drop_drop, Nat.add_sub_of_le h]

section
variable {U : Unicode}

theorem compact_overlay {b v : Str} (hb : Compact U b) (hv : Compact U v) (r : Range) :
    Compact U (overlay b r v) :=
  compact_append (compact_append (compact_take hb _) hv) (compact_drop hb _)

theorem compact_overlayAll (e : Country) (c : Comps) (hc : ∀ k, Compact U (c k)) :
    ∀ (ks : List Component) (b : Str), Compact U b → Compact U (overlayAll e c ks b)
  | [], _, hb => hb
  | k :: t, b, hb => by
    simp only [overlayAll]
    split
    · exact compact_overlayAll e c hc t b hb
    · exact compact_overlayAll e c hc t _ (compact_overlay hb (hc k) _)

end

def publishedAt (e : Country) (k : Component) (r : Range) : Prop :=
  (e.positions.getD []).lookup k = some r

/-- `_get_position_range`: the published range, `[0,0)` for a component the country does not
    publish. -/
theorem Country.range_eq (e : Country) (k : Component) :
    e.range k = ((e.positions.getD []).lookup k).getD ⟨0, 0⟩ := by
  unfold Country.range
  cases e.positions with
  | none => rfl
  | some ps => simp only [Option.getD_some]; cases ps.lookup k <;> rfl

theorem range_of_published {e : Country} {k : Component} {r : Range} (h : publishedAt e k r) :
    e.range k = r := by
  rw [Country.range_eq, h]; rfl

theorem range_unpublished {e : Country} {k : Component}
    (h : (e.positions.getD []).lookup k = none) : e.range k = ⟨0, 0⟩ := by
  rw [Country.range_eq, h]; rfl

theorem cut_range_eq (e : Country) (b : Str) (k : Component) :
    (e.range k).cut b = match (e.positions.getD []).lookup k with
      | some r => slice b r.start r.stop
      | none => [] := by
  cases hq : (e.positions.getD []).lookup k with
  | some r => rw [range_of_published hq]; rfl
  | none => rw [range_unpublished hq]; simp [Range.cut, slice]

theorem lookup_map_snd {α β γ : Type} [BEq α] (f : β → γ) : ∀ (ps : List (α × β)) (k : α),
    (ps.map (fun p => (p.1, f p.2))).lookup k = (ps.lookup k).map f
  | [], _ => rfl
  | (a, v) :: t, k => by
    simp only [List.map_cons, List.lookup_cons]
    cases h : k == a
    · simp only; exact lookup_map_snd f t k
    · simp only [Option.map_some]

theorem lookup_map_self {β : Type} (f : Component → β) : ∀ (ks : List Component) (k : Component),
    k ∈ ks → (ks.map (fun k => (k, f k))).lookup k = some (f k)
  | [], _, h => by cases h
  | a :: t, k, h => by
    simp only [List.map_cons, List.lookup_cons]
    by_cases hk : k = a
    · subst hk; simp
    · have : (k == a) = false := by simpa using hk
      rw [this]
      exact lookup_map_self f t k ((List.mem_cons.mp h).resolve_left hk)

variable {e : Country}

/-! `e.range k` is `[0,0)` for an unpublished component, so the three facts below hold for every
  component and the proofs about `overlayAll` need no case distinction on the `positions` list. -/

theorem Range.eq_zero_of_isEmpty {r : Range} (h : r.isEmpty = true) : r = ⟨0, 0⟩ := by
  cases r
  simp only [Range.isEmpty, Bool.and_eq_true, beq_iff_eq] at h
  simp only [h.1, h.2]

theorem published_of_nonempty {k : Component} (h : (e.range k).isEmpty = false) :
    publishedAt e k (e.range k) := by
  cases hq : (e.positions.getD []).lookup k with
  | none => rw [range_unpublished hq] at h; cases h
  | some r => rw [range_of_published hq]; exact hq

theorem Country.WF.range_le (hW : e.WF) (k : Component) :
    (e.range k).start ≤ (e.range k).stop ∧ (e.range k).stop ≤ e.bbanLength := by
  cases hq : (e.positions.getD []).lookup k with
  | none => rw [range_unpublished hq]; exact ⟨Nat.le_refl _, Nat.zero_le _⟩
  | some r =>
    rw [range_of_published hq]
    have := hW.bounds (k, r) (List.mem_of_lookup hq)
    exact ⟨Nat.le_of_lt this.1, this.2⟩

/-- `is_empty` is what `from_components` tests: no published field is skipped. -/
theorem Country.WF.range_isEmpty (hW : e.WF) {k : Component} {r : Range} (hp : publishedAt e k r) :
    (e.range k).isEmpty = false := by
  rw [range_of_published hp]
  have : r.start < r.stop := (hW.bounds (k, r) (List.mem_of_lookup hp)).1
  simp only [Range.isEmpty, Bool.and_eq_false_iff, beq_eq_false_iff_ne]
  right; omega

/-- An unpublished field ends at 0. -/
theorem Country.WF.range_disjoint (hW : e.WF) {k k' : Component} (hne : k ≠ k') :
    (e.range k).stop ≤ (e.range k').start ∨ (e.range k').stop ≤ (e.range k).start := by
  cases hq : (e.positions.getD []).lookup k with
  | none => rw [range_unpublished hq]; exact Or.inl (Nat.zero_le _)
  | some r =>
    cases hq' : (e.positions.getD []).lookup k' with
    | none => rw [range_unpublished hq']; exact Or.inr (Nat.zero_le _)
    | some r' =>
      rw [range_of_published hq, range_of_published hq']
      exact disjoint_of_pairwise hW.disjoint hne (List.mem_of_lookup hq) (List.mem_of_lookup hq')

theorem overlayAll_append (e : Country) (c : Comps) : ∀ (ks ks' : List Component) (b : Str),
    overlayAll e c (ks ++ ks') b = overlayAll e c ks' (overlayAll e c ks b)
  | [], _, _ => rfl
  | k :: t, ks', b => by simp only [List.cons_append, overlayAll]; exact overlayAll_append e c t ks' _

/-- The third conjunct carries the induction: a range that meets none of the fields written reads
    as before. -/
theorem overlayAll_spec (hW : e.WF) (c : Comps) : ∀ (ks : List Component) (b : Str),
    ks.Nodup → b.length = e.bbanLength →
    (∀ k ∈ ks, (e.range k).isEmpty = false → (c k).length = (e.range k).length) →
    (overlayAll e c ks b).length = e.bbanLength ∧
    (∀ k ∈ ks, (e.range k).isEmpty = false → (e.range k).cut (overlayAll e c ks b) = c k) ∧
    (∀ q : Range, (∀ k ∈ ks, q.stop ≤ (e.range k).start ∨ (e.range k).stop ≤ q.start) →
      q.cut (overlayAll e c ks b) = q.cut b)
  | [], b, _, hb, _ => ⟨hb, fun _ h => (nomatch h), fun _ _ => rfl⟩
  | k :: t, b, hnd, hb, hlen => by
    have ⟨hkt, hndt⟩ := List.nodup_cons.mp hnd
    have hlent : ∀ k' ∈ t, (e.range k').isEmpty = false → (c k').length = (e.range k').length :=
      fun k' h => hlen k' (List.mem_cons_of_mem _ h)
    cases hk : (e.range k).isEmpty with
    | true =>
      simp only [overlayAll, hk, ↓reduceIte]
      have ⟨h1, h2, h3⟩ := overlayAll_spec hW c t b hndt hb hlent
      refine ⟨h1, fun j hj hne => ?_, fun q hd => h3 q (fun k' h => hd k' (List.mem_cons_of_mem _ h))⟩
      rcases List.mem_cons.mp hj with rfl | hj
      · rw [hk] at hne; cases hne
      · exact h2 j hj hne
    | false =>
      simp only [overlayAll, hk, Bool.false_eq_true, ↓reduceIte]
      have ⟨hr, hs⟩ := hW.range_le k
      have hv : (c k).length = (e.range k).stop - (e.range k).start := hlen k List.mem_cons_self hk
      have hb' : (overlay b (e.range k) (c k)).length = e.bbanLength := by
        have := overlay_length_add b (e.range k) (c k) (by omega) hr
        omega
      have ⟨h1, h2, h3⟩ := overlayAll_spec hW c t _ hndt hb' hlent
      refine ⟨h1, fun j hj hne => ?_, fun q hd => ?_⟩
      · rcases List.mem_cons.mp hj with rfl | hj
        · -- nothing written later touches the field of `j`
          rw [h3 (e.range j) (fun k' h => hW.range_disjoint (fun hjk => hkt (hjk ▸ h)))]
          exact overlay_slice_same b _ _ (by omega) hr hv
        · exact h2 j hj hne
      · rw [h3 q (fun k' h => hd k' (List.mem_cons_of_mem _ h))]
        exact overlay_slice_other b _ q _ (by omega) hr hv (hd k List.mem_cons_self)

end SV
