/-
  The vocabulary of the C07 statements (the ten-digit account `acct`, `deAccepts`, `deVerdict`), the
  comparison of a computed check digit with a digit character, and the residue sweep that closes
  the rule lemmas of `SV.Proofs.GermanyEngine`.
-/
import SV.Proofs.Clean
import SV.Proofs.Fits
import SV.Model.Germany
namespace SV
open Spec

theorem intChar_digit {U : Unicode} (hU : U.WF) {d : Nat} (hd : d < 10) :
    U.intChar (48 + d) = .ok d := by
  have := hU.intChar_ascii (c := 48 + d) (isAsciiDigit_iff.mpr (by omega))
  rwa [Nat.add_sub_cancel_left] at this

theorem cmp_digit {c : Int} {d : Nat} (h1 : -30 ≤ c) (h2 : c < 30) (hd : d < 10) :
    (intToStr c == [48 + d]) = decide (c = (d : Int)) := by
  -- the window ±30 is arbitrary: `reconcile` hands `wmVerdict_ok` candidates in 0 … 9 (methods 24
  -- and 21); sixty values by ten digits are checked entry by entry
  have table : ∀ (c : Fin 60) (d : Fin 10),
      (intToStr ((c.val : Int) - 30) == [48 + d.val]) = decide ((c.val : Int) - 30 = (d.val : Int)) := by
    decide +kernel
  have := table ⟨(c + 30).toNat, by omega⟩ ⟨d, hd⟩
  simp only at this
  have e : (((c + 30).toNat : Nat) : Int) - 30 = c := by omega
  rw [e] at this
  exact this

/-- What an outcome of `validate` means for acceptance: `True` accepts; `False` and
    `InvalidBBANChecksum` reject. -/
def deAccepts : Res Bool → Bool
  | .ok b => b
  | _ => false

/-- The outcome is a verdict (a bool or the library's checksum error), never a foreign
    exception. -/
def deVerdict : Res Bool → Bool
  | .ok _ => true
  | .err .invalidBBANChecksum => true
  | _ => false

theorem isCrash_of_deVerdict {r : Res Bool} (h : deVerdict r = true) : r.isCrash = false := by
  cases r with
  | ok _ => rfl
  | err _ => rfl
  | crash _ => simp [deVerdict] at h

/-- The ten digit characters of an account number. -/
def acct (d1 d2 d3 d4 d5 d6 d7 d8 d9 d10 : Nat) : Str :=
  [48 + d1, 48 + d2, 48 + d3, 48 + d4, 48 + d5, 48 + d6, 48 + d7, 48 + d8, 48 + d9, 48 + d10]

theorem digit_char {c : Nat} (h : isAsciiDigit c = true) : c - 48 < 10 ∧ 48 + (c - 48) = c := by
  have := isAsciiDigit_iff.mp h; omega

theorem acct_of_digits {s : Str} (h : fitsClasses (List.replicate 10 SClass.n) s = true) :
    ∃ d1 d2 d3 d4 d5 d6 d7 d8 d9 d10, d1 < 10 ∧ d2 < 10 ∧ d3 < 10 ∧ d4 < 10 ∧ d5 < 10 ∧ d6 < 10 ∧
      d7 < 10 ∧ d8 < 10 ∧ d9 < 10 ∧ d10 < 10 ∧ s = acct d1 d2 d3 d4 d5 d6 d7 d8 d9 d10 := by
  match s, fitsClasses_length h with
  | [c1, c2, c3, c4, c5, c6, c7, c8, c9, c10], _ =>
    simp only [List.replicate, fitsClasses, SClass.ok, Bool.and_eq_true, Bool.and_true] at h
    obtain ⟨h1, h2, h3, h4, h5, h6, h7, h8, h9, h10⟩ := h
    refine ⟨_, _, _, _, _, _, _, _, _, _, (digit_char h1).1, (digit_char h2).1, (digit_char h3).1,
      (digit_char h4).1, (digit_char h5).1, (digit_char h6).1, (digit_char h7).1, (digit_char h8).1,
      (digit_char h9).1, (digit_char h10).1, ?_⟩
    rw [acct, (digit_char h1).2, (digit_char h2).2, (digit_char h3).2, (digit_char h4).2,
      (digit_char h5).2, (digit_char h6).2, (digit_char h7).2, (digit_char h8).2, (digit_char h9).2,
      (digit_char h10).2]

/-- Close `deVerdict r = true ∧ deAccepts r = rule S pz` once the weighted sum has been
    generalised to `S`: everything depends only on `S % m` and the check digit, so the goal
    becomes a statement over `m × 10` cases that the kernel evaluates. -/
macro "de_close" m:num rule:ident S:ident d:ident hd:ident : tactic =>
  `(tactic| (
    have e : (($S : Int) % $m) = (($S % $m : Nat) : Int) := by omega
    simp only [natToInt, e, $rule:ident]
    have hr : $S % $m < $m := Nat.mod_lt _ (by decide)
    generalize $S % $m = r at hr ⊢
    clear e
    revert hr; revert r; revert $hd; revert $d
    decide +kernel))

/-- As `de_close`, for goals that additionally depend on a second digit. -/
macro "de_close2" m:num rule:ident S:ident d:ident hd:ident d':ident hd':ident : tactic =>
  `(tactic| (
    have e : (($S : Int) % $m) = (($S % $m : Nat) : Int) := by omega
    simp only [natToInt, e, $rule:ident]
    have hr : $S % $m < $m := Nat.mod_lt _ (by decide)
    generalize $S % $m = r at hr ⊢
    clear e
    revert hr; revert r; revert $hd; revert $d; revert $hd'; revert $d'
    decide +kernel))

end SV
