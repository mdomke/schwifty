/-
  Fixed-count patterns up to spelling: a pattern all of whose items have a fixed count is determined
  by the class it demands at each position (`[A-Z]{4}[A-Z]{2}` = `[A-Z]{6}`).
-/
import SV.Model.Regex
namespace SV

def allFixed (items : List Item) : Bool := items.all (fun it => it.lo == it.hi)

def expandItems : List Item → List CClass
  | [] => []
  | it :: t => List.replicate it.lo it.cls ++ expandItems t

def posMatch (U : Unicode) : List CClass → Str → (Str → Bool) → Bool
  | [], s, k => k s
  | c :: cs, x :: xs, k => c.test U x && posMatch U cs xs k
  | _ :: _, [], _ => false

theorem matchRep_replicate (U : Unicode) (c : CClass) (k : Str → Bool) :
    ∀ (n : Nat) (s : Str), matchRep (c.test U) n n s k = posMatch U (List.replicate n c) s k
  | 0, s => by simp [matchRep, posMatch]
  | n + 1, [] => by simp [matchRep, posMatch, List.replicate_succ]
  | n + 1, x :: t => by
    simp only [matchRep, List.replicate_succ, posMatch, Nat.add_sub_cancel, Nat.zero_lt_succ,
      decide_true, Bool.and_true]
    rw [matchRep_replicate U c k n t]

theorem posMatch_append (U : Unicode) (k : Str → Bool) :
    ∀ (a b : List CClass) (s : Str),
      posMatch U (a ++ b) s k = posMatch U a s (fun r => posMatch U b r k)
  | [], b, s => by simp [posMatch]
  | c :: a, b, [] => by simp [posMatch]
  | c :: a, b, x :: t => by
    simp only [List.cons_append, posMatch]
    rw [posMatch_append U k a b t]

/-- Stated for any matcher of this shape: `matchItems`, and the head and tail matchers of a BIC
    pattern. -/
theorem matchChain_pos (U : Unicode) (k : Str → Bool) (f : List Item → Str → Bool)
    (hnil : ∀ s, f [] s = k s)
    (hcons : ∀ it rest s, f (it :: rest) s = matchRep (it.cls.test U) it.lo it.hi s (f rest)) :
    ∀ (items : List Item), allFixed items = true → ∀ s,
      f items s = posMatch U (expandItems items) s k
  | [], _, s => hnil s
  | it :: rest, h, s => by
    simp only [allFixed, List.all_cons, Bool.and_eq_true, beq_iff_eq] at h
    rw [hcons, expandItems, ← h.1, matchRep_replicate, posMatch_append]
    congr 1
    funext r
    exact matchChain_pos U k f hnil hcons rest h.2 r

/-- An anchored fixed-count pattern matches position by position, then Python's `$`. -/
theorem matchItems_pos (U : Unicode) :
    ∀ (items : List Item), allFixed items = true → ∀ s,
      matchItems U items s = posMatch U (expandItems items) s atEnd :=
  matchChain_pos U atEnd (matchItems U) (fun _ => rfl) (fun _ _ _ => rfl)

theorem matchItems_congr (U : Unicode) {a b : List Item} (ha : allFixed a = true) (hb : allFixed b = true)
    (he : expandItems a = expandItems b) (s : Str) : matchItems U a s = matchItems U b s := by
  rw [matchItems_pos U a ha, matchItems_pos U b hb, he]

end SV
