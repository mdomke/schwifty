/-
  `formatted` of IBAN and BIC: pieces that make up the compact form, joined by single blanks, so
  parsing it gives back the compact form.
-/
import SV.Proofs.Clean
import SV.Proofs.Bic
import SV.Model.Iban
namespace SV

variable {U : Unicode}

theorem chunks4_flatten : ∀ (n : Nat) (s : Str), s.length ≤ n → (chunks4 n s).flatten = s
  | 0, s, h => by
    have : s = [] := List.eq_nil_of_length_eq_zero (by omega)
    subst this; rfl
  | n + 1, s, h => by
    unfold chunks4
    by_cases hs : s = []
    · simp [hs]
    · simp only [hs, ↓reduceIte, List.flatten_cons]
      have hl : (s.drop 4).length ≤ n := by
        have : 0 < s.length := List.length_pos_iff.mpr hs
        simp; omega
      rw [chunks4_flatten n (s.drop 4) hl, List.take_append_drop]

theorem chunks4_shape : ∀ (n : Nat) (s : Str), ∀ ch ∈ chunks4 n s, 1 ≤ ch.length ∧ ch.length ≤ 4
  | 0, s => by simp [chunks4]
  | n + 1, s => by
    unfold chunks4
    by_cases hs : s = []
    · simp [hs]
    · simp only [hs, ↓reduceIte, List.mem_cons]
      have hpos : 0 < s.length := List.length_pos_iff.mpr hs
      intro ch hch
      rcases hch with rfl | hch
      · simp; omega
      · exact chunks4_shape n (s.drop 4) ch hch

theorem clean_intercalateSp (hsp : U.isSpace 32 = true) :
    ∀ l : List Str, clean U (intercalateSp l) = clean U l.flatten
  | [] => rfl
  | [a] => by simp [intercalateSp]
  | a :: b :: t => by
    show clean U (a ++ [32] ++ intercalateSp (b :: t)) = clean U (a ++ (b :: t).flatten)
    rw [List.append_assoc, clean_append, List.singleton_append, clean_cons_space hsp,
      clean_intercalateSp hsp (b :: t), ← clean_append]

theorem clean_iban_formatted (hU : U.WF) (c : Str) : clean U (IBAN.formatted c) = clean U c := by
  rw [IBAN.formatted, clean_intercalateSp hU.space, chunks4_flatten _ _ (Nat.le_refl _)]

theorem bic_formatted_eq (c : Str) :
    BIC.formatted c = intercalateSp ([BIC.bankCode c, BIC.countryCode c, BIC.locationCode c] ++
      if BIC.branchCode c != [] then [BIC.branchCode c] else []) := by
  unfold BIC.formatted
  split <;> simp [intercalateSp]

theorem clean_bic_formatted (hU : U.WF) {c : Str} (hlen : c.length = 8 ∨ c.length = 11) :
    clean U (BIC.formatted c) = clean U c := by
  obtain ⟨h1, h2, h3, h4, h5⟩ := bic_fields hlen
  rw [bic_formatted_eq, clean_intercalateSp hU.space]
  congr 1
  rw [h1, h2, h3, h4]
  refine Eq.trans ?_ h5
  cases hb : (c.drop 8 != [])
  · rw [show c.drop 8 = [] by simpa using hb]; simp
  · simp

end SV
