/-
  The anchored fixed-count matcher is the positional class check.
-/
import SV.Proofs.RegexPos
import SV.Spec.Iso13616
namespace SV
open Spec
set_option linter.constructorNameAsVariable false

/-- The regular-expression item the library builds for one item of a structure string
    (`convert_bban_spec_to_regex` with `_spec_to_re`); class ranges in ascending order, as the
    translator emits them. -/
def itemOf : Nat × SClass → Item
  | (k, .n) => ⟨.uniDigit, k, k⟩
  | (k, .a) => ⟨.ranges [(65, 90)], k, k⟩
  | (k, .c) => ⟨.ranges [(48, 57), (65, 90), (97, 122)], k, k⟩
  | (k, .e) => ⟨.ranges [(32, 32)], k, k⟩

/-- What the regular-expression classes test (Unicode-aware `\d`, mixed-case `c`). -/
def Spec.SClass.reTest (U : Unicode) : SClass → Nat → Bool
  | .n, x => U.isDigit x
  | .a, x => isAsciiUpper x
  | .c, x => isAsciiDigit x || isAsciiUpper x || isAsciiLower x
  | .e, x => x == 32

theorem itemOf_test (U : Unicode) (k : Nat) (c : SClass) (x : Nat) :
    (itemOf (k, c)).cls.test U x = c.reTest U x := by
  cases c with
  | n => simp [itemOf, CClass.test, SClass.reTest]
  | a => simp [itemOf, CClass.test, SClass.reTest, isAsciiUpper]
  | c => simp [itemOf, CClass.test, SClass.reTest, isAsciiDigit, isAsciiUpper, isAsciiLower, Bool.or_assoc]
  | e =>
    simp only [itemOf, CClass.test, SClass.reTest, List.any_cons, List.any_nil, Bool.or_false]
    apply Bool.eq_iff_iff.mpr
    simp only [Bool.and_eq_true, decide_eq_true_eq, beq_iff_eq]
    omega

theorem itemOf_lo (k : Nat) (c : SClass) : (itemOf (k, c)).lo = k ∧ (itemOf (k, c)).hi = k := by
  cases c <;> simp [itemOf]

def fitsRe (U : Unicode) : List SClass → Str → Bool
  | [], [] => true
  | c :: cs, x :: xs => c.reTest U x && fitsRe U cs xs
  | _, _ => false

theorem allFixed_map_itemOf (l : List (Nat × SClass)) : allFixed (l.map itemOf) = true := by
  simp only [allFixed, List.all_map, List.all_eq_true, Function.comp, beq_iff_eq]
  intro ⟨k, c⟩ _
  rw [(itemOf_lo k c).1, (itemOf_lo k c).2]

def clsOf (c : SClass) : CClass := (itemOf (0, c)).cls

theorem expandItems_map_itemOf : ∀ (l : List (Nat × SClass)),
    expandItems (l.map itemOf) = (expandSpec l).map clsOf
  | [] => rfl
  | (k, c) :: t => by
    rw [List.map_cons, expandItems, expandSpec, List.map_append, List.map_replicate,
      expandItems_map_itemOf t, (itemOf_lo k c).1]
    cases c <;> rfl

theorem fitsRe_length (U : Unicode) : ∀ {cs : List SClass} {s : Str},
    fitsRe U cs s = true → s.length = cs.length
  | [], [], _ => rfl
  | [], _ :: _, h => nomatch h
  | _ :: _, [], h => nomatch h
  | _ :: _, _ :: _, h => congrArg Nat.succ (fitsRe_length U (Bool.and_eq_true_iff.mp h).2)

theorem posMatch_map_clsOf (U : Unicode) (k : Str → Bool) : ∀ (cs : List SClass) (s : Str),
    posMatch U (cs.map clsOf) s k = (fitsRe U cs (s.take cs.length) && k (s.drop cs.length))
  | [], s => by simp [posMatch, fitsRe]
  | c :: cs, [] => by simp [posMatch, fitsRe]
  | c :: cs, x :: t => by
    simp only [List.map_cons, posMatch, clsOf, itemOf_test, posMatch_map_clsOf U k cs t,
      List.length_cons, List.take_succ_cons, List.drop_succ_cons, fitsRe, Bool.and_assoc]

/-- The second alternative is Python's `$`, which tolerates one final newline. -/
theorem matchItems_spec (U : Unicode) :
    ∀ (l : List (Nat × SClass)) (s : Str),
      matchItems U (l.map itemOf) s = true ↔
        (fitsRe U (expandSpec l) s = true ∨ ∃ s', s = s' ++ [10] ∧ fitsRe U (expandSpec l) s' = true) := by
  intro l s
  rw [matchItems_pos U _ (allFixed_map_itemOf l), expandItems_map_itemOf, posMatch_map_clsOf]
  generalize expandSpec l = cs
  simp only [Bool.and_eq_true, atEnd, Bool.or_eq_true, beq_iff_eq]
  constructor
  · rintro ⟨hf, hd | hd⟩
    · rw [List.take_of_length_le (List.drop_eq_nil_iff.mp hd)] at hf; exact .inl hf
    · exact .inr ⟨_, by rw [← hd, List.take_append_drop], hf⟩
  · rintro (h | ⟨s', rfl, h⟩) <;> have hl := fitsRe_length U h
    · simp [← hl, h]
    · simp [← hl, h]

end SV
