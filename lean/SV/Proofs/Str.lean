/-
  The Python string primitives of `SV.Model.Basic` (`s[a:b]`, `Base._get_slice`, `str.zfill`) in
  terms of `List.take` / `List.drop` / `List.replicate`, and the two facts about plain lists the
  later modules share (a test on all members, a hit of `List.lookup`); `strLt` as core's `<`.
-/
import SV.Model.Basic

theorem List.mem_of_lookup {α β : Type} [BEq α] [LawfulBEq α] {l : List (α × β)} {k : α} {v : β}
    (h : l.lookup k = some v) : (k, v) ∈ l := by
  obtain ⟨l1, l2, hl, _⟩ := List.lookup_eq_some_iff.mp h
  rw [hl]; simp

namespace SV

theorem beq_str_comm (a b : Str) : (a == b) = (b == a) := Bool.beq_comm

theorem getSlice_of_le {b : Str} {s t : Nat} (h : t ≤ b.length) : getSlice b s (some t) = slice b s t := by
  unfold getSlice
  by_cases hs : s < b.length
  · simp [hs, h]
  · simp only [hs, decide_false, Bool.false_and, Bool.false_eq_true, ↓reduceIte, slice]
    exact (List.drop_eq_nil_of_le (by rw [List.length_take]; omega)).symm

theorem getSlice_none (c : Str) (n : Nat) : getSlice c n none = c.drop n := by
  simp only [getSlice]
  split
  · rfl
  · exact (List.drop_eq_nil_of_le (by omega)).symm

theorem slice_mem {s : Str} {a b c : Nat} (h : c ∈ slice s a b) : c ∈ s :=
  List.mem_of_mem_take (List.mem_of_mem_drop h)

theorem all_of_subset {p : Nat → Bool} {s t : Str} (hts : ∀ x ∈ t, x ∈ s) (h : s.all p = true) :
    t.all p = true :=
  List.all_eq_true.mpr fun x hx => List.all_eq_true.mp h x (hts x hx)

theorem slice_length {b : Str} {s t : Nat} (h : t ≤ b.length) : (slice b s t).length = t - s := by
  simp [slice, List.length_drop, List.length_take, Nat.min_eq_left h]

theorem slice_zero (b : Str) (t : Nat) : slice b 0 t = b.take t := by simp [slice]

theorem slice_to_end {b : Str} {s t : Nat} (h : b.length ≤ t) : slice b s t = b.drop s := by
  simp [slice, List.take_of_length_le h]

theorem slice_append_slice (b : Str) (i j k : Nat) (hij : i ≤ j) (hjk : j ≤ k) :
    slice b i j ++ slice b j k = slice b i k := by
  unfold slice
  have ht : b.take j = (b.take k).take j := by rw [List.take_take, Nat.min_eq_left hjk]
  rw [ht]
  generalize b.take k = t
  by_cases hi : i ≤ (t.take j).length
  · rw [← List.drop_append_of_le_length hi, List.take_append_drop]
  · have hlen : t.length < i := by
      rw [List.length_take] at hi; omega
    rw [List.drop_of_length_le (by rw [List.length_take]; omega),
      List.drop_of_length_le (by omega), List.drop_of_length_le (by omega)]
    rfl

theorem slice_slice (b : Str) (s t i j : Nat) (h : s + j ≤ t) :
    slice (slice b s t) i j = slice b (s + i) (s + j) := by
  unfold slice
  rw [List.take_drop, List.drop_drop, List.take_take, Nat.min_eq_left h]

theorem slice_take (b : Str) (s t n : Nat) (h : s + n ≤ t) :
    (slice b s t).take n = slice b s (s + n) := by
  have := slice_slice b s t 0 n h
  simpa [slice] using this

theorem slice_drop (b : Str) (s t n : Nat) :
    (slice b s t).drop n = slice b (s + n) t := by
  unfold slice
  rw [List.drop_drop]

theorem slice_single {l : Str} {i : Nat} (h : i < l.length) : slice l i (i + 1) = [l[i]] := by
  unfold slice
  rw [List.take_add_one, List.drop_append_of_le_length (by rw [List.length_take]; omega)]
  have : (l.take i).length = i := by rw [List.length_take]; omega
  rw [List.drop_of_length_le (by omega)]
  simp [h]

theorem slice_mid (p v s : Str) : slice (p ++ v ++ s) p.length (p.length + v.length) = v := by
  unfold slice
  rw [List.append_assoc, List.take_append, List.drop_append]
  simp

theorem zfill_length (s : Str) (w : Nat) : (zfill s w).length = max s.length w := by
  unfold zfill
  by_cases h : w ≤ s.length
  · simp [h, Nat.max_eq_left h]
  · simp only [h, ↓reduceIte]
    have hw : s.length ≤ w := by omega
    cases s with
    | nil => simp
    | cons c rest =>
      simp only [List.length_cons] at hw h ⊢
      split <;> simp <;> omega

theorem zfill_nosign (s : Str) (w : Nat) (h : ∀ c, s.head? = some c → c ≠ 43 ∧ c ≠ 45) :
    zfill s w = List.replicate (w - s.length) 48 ++ s := by
  unfold zfill
  by_cases hw : w ≤ s.length
  · simp [hw, Nat.sub_eq_zero_of_le hw]
  · simp only [hw, ↓reduceIte]
    cases s with
    | nil => simp
    | cons c rest =>
      have := h c rfl
      simp [this.1, this.2]

/-- `str.zfill` puts the zeros after a leading sign. -/
theorem zfill_sign (c : Nat) (rest : Str) (w : Nat) (hc : c = 43 ∨ c = 45) (hw : ¬ w ≤ (c :: rest).length) :
    zfill (c :: rest) w = c :: (List.replicate (w - (c :: rest).length) 48 ++ rest) := by
  unfold zfill
  simp only [hw, ↓reduceIte]
  rcases hc with rfl | rfl <;> simp

theorem zfill_of_le {s : Str} {w : Nat} (h : w ≤ s.length) : zfill s w = s := by
  unfold zfill; rw [if_pos h]

theorem mem_zfill {s : Str} {w c : Nat} (h : c ∈ zfill s w) : c ∈ s ∨ c = 48 := by
  unfold zfill at h
  split at h
  · exact Or.inl h
  · cases s with
    | nil => exact Or.inr (List.eq_of_mem_replicate h)
    | cons a rest =>
      simp only at h
      split at h <;>
        simp only [List.mem_cons, List.mem_append, List.mem_replicate] at h ⊢ <;>
        rcases h with h | h | h <;> simp [h]

theorem strLt_iff_lt : ∀ {a b : Str}, strLt a b = true ↔ a < b
  | [], [] => by simp [strLt]
  | [], _ :: _ => by simp [strLt]
  | _ :: _, [] => by simp [strLt]
  | x :: s, y :: t => by
    rw [strLt, List.cons_lt_cons_iff, ← strLt_iff_lt (a := s) (b := t)]
    by_cases h1 : x < y
    · simp [h1]
    · by_cases h2 : y < x
      · have : x ≠ y := by omega
        simp [h1, h2, this]
      · have : x = y := by omega
        simp [this]

theorem strLt_irrefl (a : Str) : strLt a a = false :=
  Bool.eq_false_iff.mpr fun h => List.lt_irrefl a (strLt_iff_lt.mp h)

theorem strLt_trans {a b c : Str} (h1 : strLt a b = true) (h2 : strLt b c = true) :
    strLt a c = true :=
  strLt_iff_lt.mpr (List.lt_trans (strLt_iff_lt.mp h1) (strLt_iff_lt.mp h2))

theorem strLt_asymm {a b : Str} (h : strLt a b = true) : strLt b a = false :=
  Bool.eq_false_iff.mpr fun h' => List.lt_asymm (strLt_iff_lt.mp h) (strLt_iff_lt.mp h')

theorem strLt_total (a b : Str) : strLt a b = true ∨ a = b ∨ strLt b a = true := by
  simp only [strLt_iff_lt]
  by_cases h1 : a < b
  · exact .inl h1
  · by_cases h2 : b < a
    · exact .inr (.inr h2)
    · exact .inr (.inl (List.le_antisymm (List.not_lt.mp h2) (List.not_lt.mp h1)))

end SV
