/-
  The national check-digit algorithms never let a foreign exception escape on components cut out of
  a BBAN that fits its country's structure: each is total on digit / alphanumeric components
  (`safeOn`), the classes of the structure string at a component's position decide that
  (`classSafe`), and `natSafeB` checks it for every registered algorithm (`SV.Props.C05National`).
-/
import SV.Proofs.NationalValues
import SV.Proofs.National
import SV.Proofs.Germany
import SV.Proofs.Fits
import SV.Proofs.Res
namespace SV
open Spec

/-- What an algorithm needs of its component strings (`m` = the `int()` digit limit). -/
def NatAlgo.safeOn (m : Nat) : NatAlgo → List Str → Bool
  | .isoDefault, _ | .isoVariant, _ | .be, _ => true
  | .fr, ss => ss.length == 3 &&
      ss.all (fun s => allAlnum s && decide (0 < s.length) && decide (s.length ≤ m))
  | .es, ss => ss.length == 3 && ss.all allDigits
  | .czsk, ss | .no, ss => ss.length == 2 && ss.all allDigits
  | .is_, ss => ss.length == 1 && ss.all (fun s => allDigits s && decide (9 ≤ s.length))
  | .pl, ss | .ee, ss => ss.all allDigits
  | .fi, ss | .it, ss => ss.all allAlnum

theorem NatAlgo.compute_no_crash {U : Unicode} (hU : U.WF) (a : NatAlgo) (cs : List Str)
    (h : a.safeOn U.maxIntDigits cs = true) : (a.compute U cs).isCrash = false := by
  cases a with
  | isoDefault | isoVariant | be =>
    exact Res.isCrash_bind (Res.isCrash_bind (numerify_no_crash U _) fun _ => rfl) fun _ => rfl
  | fr =>
    match cs, h with
    | [x, y, z], h =>
      simp only [NatAlgo.safeOn, List.all_cons, List.all_nil, Bool.and_true, Bool.and_eq_true,
        decide_eq_true_eq] at h
      obtain ⟨-, ⟨⟨ax, px⟩, lx⟩, ⟨⟨ay, py⟩, ly⟩, ⟨az, pz⟩, lz⟩ := h
      simp only [NatAlgo.compute_fr, frCompute, frNumerify_val U _ 0 0 ax (by omega) (by omega),
        frNumerify_val U _ 0 0 ay (by omega) (by omega), frNumerify_val U _ 0 0 az (by omega) (by omega)]
      rfl
  | es =>
    match cs, h with
    | [x, y, z], h =>
      simp only [NatAlgo.safeOn, List.all_cons, List.all_nil, Bool.and_true, Bool.and_eq_true] at h
      simp only [NatAlgo.compute_es, esCompute, weighted_val hU _ _ _ h.2.2.2,
        weighted_val hU (x ++ y) _ _ (by rw [allDigits_append, h.2.1, h.2.2.1]; rfl)]
      rfl
  | pl =>
    simp only [NatAlgo.compute_pl, plCompute, weighted_val hU _ _ _ (allDigits_flatten h)]; rfl
  | ee =>
    simp only [NatAlgo.compute_ee, eeCompute,
      weighted_val hU _ _ _ (allDigits_reverse (allDigits_flatten h))]; rfl
  | czsk => rfl
  | is_ =>
    match cs, h with
    | [x], h =>
      simp only [NatAlgo.safeOn, List.all_cons, List.all_nil, Bool.and_true, Bool.and_eq_true] at h
      simp only [NatAlgo.compute_is, isCompute, weighted_val hU _ _ _ h.2.1]; rfl
  | no =>
    match cs, h with
    | [x, y], h =>
      simp only [NatAlgo.safeOn, List.all_cons, List.all_nil, Bool.and_true, Bool.and_eq_true] at h
      have hv : allDigits (if y.take 2 == [48, 48] then y.drop 2 else joinStrs [x, y]) = true := by
        split
        · exact allDigits_drop 2 h.2.2
        · simp [joinStrs, allDigits_append, h.2.1, h.2.2]
      simp only [NatAlgo.compute_no, noCompute, weightedSum_val hU _ _ hv, Res.ok_bind]
      generalize wsum _ _ = s
      split <;> rfl
  | fi =>
    obtain ⟨r, hr⟩ := luhnNumerical_ok (joinStrs cs) (allAlnum_flatten h)
    simp only [NatAlgo.compute_fi, fiCompute, luhn, hr]; rfl
  | it =>
    simp only [NatAlgo.compute_it, itCompute, itSum_val hU _ 0 (allAlnum_flatten h)]; rfl

theorem NatAlgo.validate_no_crash {U : Unicode} (hU : U.WF) (a : NatAlgo) (cs : List Str) (ex : Str)
    (h : a.safeOn U.maxIntDigits cs = true) : (a.validate U cs ex).isCrash = false := by
  have hc := NatAlgo.compute_no_crash hU a cs h
  cases a with
  | czsk =>
    match cs, h with
    | [x, y], h =>
      simp only [NatAlgo.safeOn, List.all_cons, List.all_nil, Bool.and_true, Bool.and_eq_true] at h
      simp only [NatAlgo.validate_czsk, czValidate, weighted_val hU _ _ _ h.2.1,
        weighted_val hU _ _ _ h.2.2]
      rfl
  | is_ =>
    match cs, h with
    | [x], h =>
      simp only [NatAlgo.safeOn, List.all_cons, List.all_nil, Bool.and_true, Bool.and_eq_true,
        decide_eq_true_eq] at h
      have hy : x[8]? = some x[8] := List.getElem?_eq_getElem (by omega)
      simp only [NatAlgo.validate_is, isValidate, isCompute, weighted_val hU _ _ _ h.2.1, hy]; rfl
  | isoDefault | isoVariant | be | fr | es | pl | ee | no | fi | it =>
    exact Res.isCrash_bind hc fun _ => rfl

/-- The classes of `s[a:b]` as `_get_slice` cuts it. -/
def clsSlice (cls : List SClass) (a b : Nat) : List SClass :=
  if a < cls.length && b ≤ cls.length then (cls.take b).drop a else []

theorem fits_getSlice {l : List SClass} {s : Str} (a b : Nat) (h : fitsClasses l s = true) :
    fitsClasses (clsSlice l a b) (getSlice s a (some b)) = true := by
  have hl := (fitsClasses_length h).symm
  simp only [clsSlice, getSlice, slice, hl]
  split
  · exact fitsClasses_drop a (fitsClasses_take b h)
  · rfl

/-- What an algorithm needs of the classes at its components' positions. -/
def NatAlgo.classSafe : NatAlgo → List (List SClass) → Bool
  | .isoDefault, _ => true
  | .isoVariant, _ => true
  | .be, _ => true
  | .fr, [a, b, c] => [a, b, c].all (fun l => clsAlnum l && decide (0 < l.length) && decide (l.length ≤ 100))
  | .es, [a, b, c] => clsDigits a && clsDigits b && clsDigits c
  | .pl, ls => ls.all clsDigits
  | .ee, ls => ls.all clsDigits
  | .czsk, [a, b] => clsDigits a && clsDigits b
  | .is_, [a] => clsDigits a && decide (9 ≤ a.length)
  | .no, [a, b] => clsDigits a && clsDigits b
  | .fi, ls => ls.all clsAlnum
  | .it, ls => ls.all clsAlnum
  | _, _ => false

def fitsAll : List (List SClass) → List Str → Bool
  | [], [] => true
  | l :: ls, s :: ss => fitsClasses l s && fitsAll ls ss
  | _, _ => false

theorem fitsAll_all {P : List SClass → Bool} {Q : Str → Bool}
    (hPQ : ∀ {l s}, fitsClasses l s = true → P l = true → Q s = true) :
    ∀ {ls : List (List SClass)} {ss : List Str}, fitsAll ls ss = true → ls.all P = true →
      ss.length = ls.length ∧ ss.all Q = true
  | [], [], _, _ => ⟨rfl, rfl⟩
  | [], _ :: _, h, _ => by simp [fitsAll] at h
  | _ :: _, [], h, _ => by simp [fitsAll] at h
  | l :: ls, s :: ss, h, hd => by
    simp only [fitsAll, Bool.and_eq_true] at h
    simp only [List.all_cons, Bool.and_eq_true] at hd
    have ih := fitsAll_all hPQ h.2 hd.2
    simp only [List.length_cons, ih.1, List.all_cons, hPQ h.1 hd.1, ih.2, Bool.and_self, and_self]

theorem fitsAll_nil {ss : List Str} (h : fitsAll [] ss = true) : ss = [] := by
  cases ss with
  | nil => rfl
  | cons _ _ => simp [fitsAll] at h

theorem fitsAll_cons {l : List SClass} {ls : List (List SClass)} {ss : List Str}
    (h : fitsAll (l :: ls) ss = true) :
    ∃ s ss', ss = s :: ss' ∧ fitsClasses l s = true ∧ fitsAll ls ss' = true := by
  cases ss with
  | nil => simp [fitsAll] at h
  | cons s ss' =>
    simp only [fitsAll, Bool.and_eq_true] at h
    exact ⟨s, ss', rfl, h.1, h.2⟩

theorem NatAlgo.safeOn_of_classSafe {m : Nat} (hm : 100 ≤ m) (a : NatAlgo)
    {ls : List (List SClass)} {ss : List Str} (hf : fitsAll ls ss = true)
    (h : a.classSafe ls = true) : a.safeOn m ss = true := by
  have arity : ∀ {n k : Nat} {b : Bool}, n = k ∧ b = true → (n == k && b) = true := by
    rintro n k b ⟨rfl, rfl⟩; simp
  have dig := @fitsAll_all clsDigits allDigits digits_of_fits ls ss hf
  cases a with
  | isoDefault | isoVariant | be => rfl
  | pl | ee => exact (dig h).2
  | fi | it => exact (fitsAll_all alnum_of_fits hf h).2
  | es =>
    match ls, h with
    | [a, b, c], h =>
      simp only [NatAlgo.classSafe, Bool.and_eq_true] at h
      exact arity (dig (by simp only [List.all_cons, List.all_nil, h, Bool.and_self]))
  | czsk | no =>
    match ls, h with
    | [a, b], h =>
      simp only [NatAlgo.classSafe, Bool.and_eq_true] at h
      exact arity (dig (by simp only [List.all_cons, List.all_nil, h, Bool.and_self]))
  | is_ =>
    match ls, h with
    | [a], h =>
      refine arity (fitsAll_all (P := fun l => clsDigits l && decide (9 ≤ l.length)) (fun f hl => ?_)
        hf (by simpa [NatAlgo.classSafe] using h))
      simp only [Bool.and_eq_true, decide_eq_true_eq] at hl ⊢
      exact ⟨digits_of_fits f hl.1, (fitsClasses_length f).symm ▸ hl.2⟩
  | fr =>
    match ls, h with
    | [a, b, c], h =>
      refine arity (fitsAll_all
        (P := fun l => clsAlnum l && decide (0 < l.length) && decide (l.length ≤ 100))
        (Q := fun s => allAlnum s && decide (0 < s.length) && decide (s.length ≤ m))
        (fun f hl => ?_) hf h)
      simp only [Bool.and_eq_true, decide_eq_true_eq] at hl ⊢
      have := fitsClasses_length f
      exact ⟨⟨alnum_of_fits f hl.1.1, by omega⟩, by omega⟩

/-- The class lists of the components an algorithm accepts. -/
def compClasses (e : Country) (cls : List SClass) (ks : List Component) : List (List SClass) :=
  ks.map (fun k => clsSlice cls (e.range k).start (e.range k).stop)

theorem fitsAll_components (e : Country) {cls : List SClass} {b : Str}
    (h : fitsClasses cls b = true) :
    ∀ ks : List Component, fitsAll (compClasses e cls ks) (componentsOf e b ks) = true
  | [] => rfl
  | k :: t => by
    simp only [compClasses, List.map_cons, componentsOf, fitsAll, Bool.and_eq_true]
    exact ⟨fits_getSlice _ _ h, fitsAll_components e h t⟩

/-- One algorithm entry against the country it is registered for. -/
def entrySafeB (e : Country) (a : AlgoEntry) : Bool :=
  match parseSpec e.bbanSpec with
  | none => false
  | some l =>
    match a.ref with
    | .nat n => n.classSafe (compClasses e (expandSpec l) a.accepts)
    | .de _ => compClasses e (expandSpec l) a.accepts == [List.replicate 10 SClass.n]
    | .unknown => false

/-- Every registered algorithm is class-safe for the country named by its key. -/
def natSafeB (A : AlgoTable) (T : Table) : Bool :=
  A.all (fun a => match T.lookup (a.key.take 2) with
    | some e => entrySafeB e a
    | none => true)

/-- The German methods of the table return a verdict on every ten-digit account number. -/
def DETotal (U : Unicode) (A : AlgoTable) : Prop :=
  ∀ a ∈ A, ∀ p, a.ref = .de p → ∀ (d1 d2 d3 d4 d5 d6 d7 d8 d9 d10 : Nat),
    d1 < 10 → d2 < 10 → d3 < 10 → d4 < 10 → d5 < 10 → d6 < 10 → d7 < 10 → d8 < 10 → d9 < 10 →
    d10 < 10 → ∀ sc : Scratch,
      deVerdict (p.validateM U [acct d1 d2 d3 d4 d5 d6 d7 d8 d9 d10] sc).2 = true

theorem algoVerdict_no_crash (X : Ctx) (hU : X.U.WF) (hS : natSafeB X.A X.T = true)
    (hD : DETotal X.U X.A) {cc b name : Str} {e : Country} {a : AlgoEntry} (hcc : cc.length = 2)
    (hl : X.T.lookup cc = some e) (hf : fits e b = true)
    (hg : X.A.get (cc ++ [colon] ++ name) = some a) : (algoVerdict X e b a).isCrash = false := by
  obtain ⟨hmem, hkey⟩ := AlgoTable.get_mem hg
  have hk2 : a.key.take 2 = cc := by
    rw [hkey, List.append_assoc, List.take_append_of_le_length (by omega),
      List.take_of_length_le (by omega)]
  have hsafe := List.all_eq_true.mp hS a hmem
  simp only [hk2, hl] at hsafe
  unfold entrySafeB at hsafe
  unfold fits at hf
  cases hp : parseSpec e.bbanSpec with
  | none => rw [hp] at hf; cases hf
  | some l =>
    rw [hp] at hf hsafe
    simp only at hf hsafe
    have hall := fitsAll_components e hf a.accepts
    have nocrash : (a.ref.validate X.U (componentsOf e b a.accepts)
        (getSlice b (e.range .nationalChecksumDigits).start
          (some (e.range .nationalChecksumDigits).stop))).isCrash = false := by
      -- a national class is total on components of safe classes; a German method gets one
      -- component of ten digits, where `hD` applies
      cases hr : a.ref with
      | nat n =>
        rw [hr] at hsafe
        exact NatAlgo.validate_no_crash hU n _ _
          (NatAlgo.safeOn_of_classSafe hU.maxInt n hall hsafe)
      | de p =>
        rw [hr] at hsafe
        have hcl : compClasses e (expandSpec l) a.accepts = [List.replicate 10 SClass.n] := by
          simpa using hsafe
        rw [hcl] at hall
        obtain ⟨s, ss', hs, fs, hrest⟩ := fitsAll_cons hall
        cases fitsAll_nil hrest
        obtain ⟨d1, d2, d3, d4, d5, d6, d7, d8, d9, d10, h1, h2, h3, h4, h5, h6, h7, h8, h9, h10, rfl⟩ :=
          acct_of_digits fs
        rw [hs]
        exact isCrash_of_deVerdict
          (hD a hmem p hr d1 d2 d3 d4 d5 d6 d7 d8 d9 d10 h1 h2 h3 h4 h5 h6 h7 h8 h9 h10 ⟨0⟩)
      | unknown => rw [hr] at hsafe; cases hsafe
    exact Res.isCrash_bind nocrash fun v => by cases v <;> rfl

theorem validateNational_no_crash (X : Ctx) (hU : X.U.WF) (hS : natSafeB X.A X.T = true)
    (hD : DETotal X.U X.A) {cc b : Str} {e : Country} (hcc : cc.length = 2)
    (hl : X.T.lookup cc = some e) (hf : fits e b = true) :
    (BBAN.validateNational X cc b).isCrash = false := by
  rw [validateNational_eq X hl]
  split
  · rfl
  · next a hg => exact algoVerdict_no_crash X hU hS hD hcc hl hf hg

end SV
