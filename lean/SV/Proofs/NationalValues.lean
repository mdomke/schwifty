/-
  On ASCII digits / upper-case alphanumerics the Python-shaped primitives of the national algorithms
  (`int(c)`, `weighted`, `france.numerify`, the Luhn expansion, the CIN sum) return `ok` of the
  plain recursive function of `SV.Spec.National`.  Both the published-rule equivalences (C06) and
  totality (C05) are read off these equations.
-/
import SV.Proofs.Numerify
import SV.Proofs.Clean
import SV.Spec.National
namespace SV
open Spec

theorem weightedSum_val {U : Unicode} (hU : U.WF) :
    ∀ (ws : List Nat) (s : Str), allDigits s = true → weightedSum U ws s = .ok (wsum ws s)
  | [], _, _ => by simp [weightedSum, wsum]
  | _ :: _, [], _ => by simp [weightedSum, wsum]
  | w :: ws, c :: t, h => by
    simp only [allDigits, List.all_cons, Bool.and_eq_true] at h
    simp [weightedSum, wsum, dv, hU.intChar_ascii h.1, weightedSum_val hU ws t h.2]

theorem weighted_val {U : Unicode} (hU : U.WF) (s : Str) (m : Nat) (ws : List Nat)
    (h : allDigits s = true) : weighted U s m ws = .ok (wsum ws s % m) := by
  simp [weighted, weightedSum_val hU ws s h]

theorem frNumeric_val {c : Nat} (h : isAsciiAlnumUpper c = true) : frNumeric c = some (ribVal c) := by
  have table : ∀ c : Fin 91, isAsciiAlnumUpper c.val = true → frNumeric c.val = some (ribVal c.val) := by
    decide +kernel
  have hc : c < 91 := by have := isAsciiAlnumUpper_iff.mp h; omega
  exact table ⟨c, hc⟩ h

theorem frNumerify_val (U : Unicode) :
    ∀ (s : Str) (v n : Nat), allAlnum s = true → 0 < n + s.length → n + s.length ≤ U.maxIntDigits →
      frNumerify U s v n = .ok (ribNum s v)
  | [], v, n, _, h0, h1 => by
    simp only [List.length_nil, Nat.add_zero] at h0 h1
    unfold frNumerify ribNum
    rw [if_neg]
    simp only [Bool.or_eq_true, decide_eq_true_eq, not_or, Nat.not_lt]
    exact ⟨by omega, h1⟩
  | c :: t, v, n, h, _, h1 => by
    simp only [allAlnum, List.all_cons, Bool.and_eq_true] at h
    simp only [frNumerify, frNumeric_val h.1, ribNum]
    exact frNumerify_val U t (v * 10 + ribVal c) (n + 1) h.2 (by omega)
      (by simp only [List.length_cons] at h1; omega)

theorem luhnNumerical_ok : ∀ (s : Str), allAlnum s = true → ∃ r, luhnNumerical s = .ok r
  | [], _ => ⟨[], rfl⟩
  | c :: t, h => by
    simp only [allAlnum, List.all_cons, Bool.and_eq_true] at h
    obtain ⟨r, hr⟩ := luhnNumerical_ok t h.2
    have : ∃ i, alphaIndex c = some i := by
      simp only [isAsciiAlnumUpper, Bool.or_eq_true] at h
      rcases h.1 with hd | hu
      · exact ⟨_, alphaIndex_digit hd⟩
      · exact ⟨_, alphaIndex_upper hu⟩
    obtain ⟨i, hi⟩ := this
    exact ⟨_, by simp only [luhnNumerical, hi, hr]; rfl⟩

theorem luhnNumerical_val : ∀ (s : Str), allDigits s = true → luhnNumerical s = .ok (s.map dv)
  | [], _ => rfl
  | c :: t, h => by
    simp only [allDigits, List.all_cons, Bool.and_eq_true] at h
    have h' := isAsciiDigit_iff.mp h.1
    have : c - 48 < 10 := by omega
    simp [luhnNumerical, alphaIndex_digit h.1, luhnNumerical_val t h.2, this, dv]

theorem digitSum_small : ∀ n : Fin 19, digitSum n.val = n.val / 10 + n.val % 10 := by decide

theorem luhnSum_val : ∀ (s : Str) (i : Nat), allDigits s = true →
    luhnSum (s.map dv) i = luhnR s i
  | [], _, _ => rfl
  | c :: t, i, h => by
    simp only [allDigits, List.all_cons, Bool.and_eq_true] at h
    have h' := isAsciiDigit_iff.mp h.1
    simp only [List.map_cons, luhnSum, luhnR, luhnSum_val t (i + 1) h.2]
    congr 1
    have hd : dv c < 10 := by simp [dv]; omega
    by_cases hi : i % 2 = 0
    · have := digitSum_small ⟨dv c * 2, by omega⟩
      simp only [hi, if_true]
      rw [show (2 - 0) * dv c = dv c * 2 by omega]; exact this
    · have h1 : i % 2 = 1 := by omega
      have := digitSum_small ⟨dv c * 1, by omega⟩
      simp only [h1]
      rw [show (2 - 1) * dv c = dv c * 1 by omega]; exact this

theorem indexOf_upper : ∀ k : Fin 26, indexOfSub [65 + k.val] upperAlphabet 0 = some k.val := by
  decide

theorem itGetIndex_val {U : Unicode} (hU : U.WF) {c : Nat} (h : isAsciiAlnumUpper c = true) :
    cinVal c < 26 ∧ itGetIndex U c = .ok (cinVal c) := by
  unfold itGetIndex cinVal
  by_cases hd : isAsciiDigit c = true
  · have h' := isAsciiDigit_iff.mp hd
    rw [if_pos hd, if_pos h'.2]
    exact ⟨by omega, rfl⟩
  · have hu : 65 ≤ c ∧ c ≤ 90 := (isAsciiAlnumUpper_iff.mp h).resolve_left (mt isAsciiDigit_iff.mpr hd)
    have hi := indexOf_upper ⟨c - 65, by omega⟩
    simp only [show 65 + (c - 65) = c by omega] at hi
    rw [if_neg hd, if_neg (by omega), hU.upper_alnum h, hi]
    exact ⟨by omega, rfl⟩

theorem itOdds_val : ∀ k : Fin 26, itOdds[k.val]? = some (cinOdd.getD k.val 0) := by decide

theorem itSum_val {U : Unicode} (hU : U.WF) :
    ∀ (s : Str) (i : Nat), allAlnum s = true → itSum U s i = .ok (cinSum s i)
  | [], _, _ => rfl
  | c :: t, i, h => by
    simp only [allAlnum, List.all_cons, Bool.and_eq_true] at h
    obtain ⟨hk, hg⟩ := itGetIndex_val hU h.1
    have ho := itOdds_val ⟨cinVal c, hk⟩
    simp only at ho
    by_cases hp : i % 2 = 0
    · have hp' : ((i + 1) % 2 == 0) = false := by simp; omega
      simp only [itSum, hg, Res.ok_bind, hp', ho, itSum_val hU t (i + 1) h.2, cinSum, hp, if_true]
      rfl
    · have hp' : ((i + 1) % 2 == 0) = true := by simp; omega
      simp only [itSum, hg, Res.ok_bind, hp', itSum_val hU t (i + 1) h.2, cinSum, hp, if_false]
      rfl

end SV
