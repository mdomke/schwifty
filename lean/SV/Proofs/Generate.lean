/-
  `BBAN.from_components` end to end: what a national `compute` returns is upper-case alphanumeric and
  the only foreign exceptions it can raise are those `compute_national_checksum` translates
  (`Res.sat`); the assembled string is in compact form already, and every component is found at its
  field of the returned BBAN.
-/
import SV.Proofs.FromComponents
import SV.Proofs.Numerify
import SV.Proofs.National
namespace SV
open Spec

variable {U : Unicode}

/-! The primitives: `sat fun _ => True` constrains only what they raise. -/

theorem intChar_sat (U : Unicode) (c : Nat) : (U.intChar c).sat fun _ => True := by
  unfold Unicode.intChar; split
  · trivial
  · exact .inl rfl

theorem weightedSum_sat (U : Unicode) : ∀ (ws : List Nat) (s : Str), (weightedSum U ws s).sat fun _ => True
  | [], _ => by unfold weightedSum; trivial
  | _ :: _, [] => by unfold weightedSum; trivial
  | w :: ws, c :: t => by
    unfold weightedSum
    exact Res.sat_bind (intChar_sat U c) fun _ => Res.sat_bind (weightedSum_sat U ws t) fun _ => trivial

theorem weighted_sat (U : Unicode) (s : Str) (m : Nat) (ws : List Nat) :
    (weighted U s m ws).sat fun _ => True :=
  Res.sat_bind (weightedSum_sat U ws s) fun _ => trivial

theorem frNumerify_sat (U : Unicode) : ∀ (s : Str) (v n : Nat), (frNumerify U s v n).sat fun _ => True
  | [], v, n => by unfold frNumerify; split; exact .inl rfl; trivial
  | c :: t, v, n => by
    unfold frNumerify; split
    · exact frNumerify_sat U t _ _
    · exact .inr (.inl rfl)

theorem luhnNumerical_sat : ∀ s : Str, (luhnNumerical s).sat fun _ => True
  | [] => trivial
  | c :: t => by
    unfold luhnNumerical; split
    · exact Res.sat_bind (luhnNumerical_sat t) fun _ => trivial
    · exact .inl rfl

theorem itGetIndex_sat (U : Unicode) (c : Nat) : (itGetIndex U c).sat fun _ => True := by
  unfold itGetIndex; split
  · trivial
  · split
    · trivial
    · exact .inl rfl

theorem itSum_sat (U : Unicode) : ∀ (s : Str) (i : Nat), (itSum U s i).sat fun _ => True
  | [], _ => trivial
  | c :: t, i => by
    unfold itSum
    refine Res.sat_bind (itGetIndex_sat U c) fun k => Res.sat_bind ?_ fun v =>
      Res.sat_bind (itSum_sat U t (i + 1)) fun _ => ?_
    · split
      · trivial
      · split
        · trivial
        · exact .inr (.inr rfl)
    · trivial

theorem isoPre_sat (U : Unicode) (cs : List Str) : (isoPre U cs).sat fun _ => True :=
  Res.sat_bind (Res.sat_of_not_crash (numerify_no_crash U _)) fun _ => trivial

theorem isoDefaultCompute_no_crash (U : Unicode) (cs : List Str) :
    (isoDefaultCompute U cs).isCrash = false :=
  Res.isCrash_bind (Res.isCrash_bind (numerify_no_crash U _) fun _ => rfl) fun _ => rfl

theorem natToDigits_out (n : Nat) : allAlnum (natToDigits n) = true ∧ natToDigits n ≠ [] :=
  ⟨allAlnum_of_allDigits (natToDigits_allDigits n), fun hc => by
    simp only [natToDigits, List.map_eq_nil_iff] at hc
    exact Nat.toDigits_ne_nil hc⟩

theorem fmt02_out (v : Nat) : allAlnum (fmt02 v) = true ∧ fmt02 v ≠ [] := by
  unfold fmt02; split
  · next h =>
    refine ⟨?_, List.cons_ne_nil _ _⟩
    simp only [allAlnum, List.all_cons, List.all_nil, Bool.and_true, Bool.and_eq_true, isAsciiAlnumUpper_iff]
    omega
  · exact natToDigits_out v

/-- `DefaultAlgorithm.compute` of CZ/SK returns `""`.  Every other class is a primitive that yields
    a number, followed by the text of a small number. -/
theorem NatAlgo.compute_sat (U : Unicode) (a : NatAlgo) (cs : List Str) :
    (a.compute U cs).sat fun d => allAlnum d = true ∧ (a ≠ .czsk → d ≠ []) := by
  have out : ∀ {d : Str} {a : NatAlgo}, allAlnum d = true ∧ d ≠ [] →
      allAlnum d = true ∧ (a ≠ .czsk → d ≠ []) := fun h => ⟨h.1, fun _ => h.2⟩
  cases a with
  | isoDefault => exact Res.sat_bind (isoPre_sat U cs) fun _ => out (fmt02_out _)
  | isoVariant => exact Res.sat_bind (isoPre_sat U cs) fun _ => out (fmt02_out _)
  | be => exact Res.sat_bind (isoPre_sat U cs) fun _ => out (fmt02_out _)
  | fr =>
    simp only [NatAlgo.compute_fr, frCompute]
    split
    · exact Res.sat_bind (frNumerify_sat U _ _ _) fun _ => Res.sat_bind (frNumerify_sat U _ _ _)
        fun _ => Res.sat_bind (frNumerify_sat U _ _ _) fun _ => out (fmt02_out _)
    · exact .inl rfl
  | es =>
    simp only [NatAlgo.compute_es, esCompute]
    split
    · refine Res.sat_bind (weighted_sat U _ _ _) fun w1 => Res.sat_bind (weighted_sat U _ _ _) fun w2 =>
        out ⟨?_, fun hc => (natToDigits_out _).2 (List.append_eq_nil_iff.mp hc).1⟩
      rw [allAlnum_append, (natToDigits_out _).1, (natToDigits_out _).1]; rfl
    · exact .inl rfl
  | pl => exact Res.sat_bind (weighted_sat U _ _ _) fun _ => out (natToDigits_out _)
  | ee => exact Res.sat_bind (weighted_sat U _ _ _) fun _ => out (natToDigits_out _)
  | czsk => exact ⟨rfl, fun h => absurd rfl h⟩
  | is_ =>
    simp only [NatAlgo.compute_is, isCompute]
    split
    · exact Res.sat_bind (weighted_sat U _ _ _) fun r => by
        show Res.sat _ (Res.ok _)
        split <;> exact out (natToDigits_out _)
    · exact .inl rfl
  | no =>
    simp only [NatAlgo.compute_no, noCompute]
    split
    · refine Res.sat_bind (weightedSum_sat U _ _) fun total => ?_
      split
      · trivial
      · exact out (natToDigits_out _)
    · exact .inl rfl
  | fi => exact Res.sat_bind (luhnNumerical_sat _) fun _ => out (natToDigits_out _)
  | it =>
    refine Res.sat_bind (itSum_sat U _ 0) fun s => out ⟨?_, List.cons_ne_nil _ _⟩
    have : s % 26 < 26 := Nat.mod_lt _ (by decide)
    simp only [allAlnum, List.all_cons, List.all_nil, Bool.and_true, isAsciiAlnumUpper_iff]
    omega

theorem compact_padComps (X : Ctx) (hU : X.U.WF) (e : Country) (vs : List (Component × Str))
    (k : Component) : Compact X.U (padComps X e vs k) :=
  compact_zfill hU (compact_clean hU _) _

theorem compact_splitComps (X : Ctx) (hU : X.U.WF) (e : Country) (vs : List (Component × Str))
    (k : Component) : Compact X.U (splitComps X e vs k) := by
  unfold splitComps
  split
  · simp only [Comps.set]
    split
    · exact compact_take (compact_padComps X hU e vs _) _
    · split
      · exact compact_slice (compact_padComps X hU e vs _) _ _
      · exact compact_padComps X hU e vs k
  · exact compact_padComps X hU e vs k

theorem compact_withChecksum {c : Comps} (hc : ∀ k, Compact U (c k)) {cs : Str} (hcs : Compact U cs)
    (k : Component) : Compact U (withChecksum c cs k) := by
  unfold withChecksum
  split
  · simp only [Comps.set]
    split
    · exact hcs
    · exact hc k
  · exact hc k

theorem clean_assembled (X : Ctx) (hU : X.U.WF) (e : Country) (vs : List (Component × Str))
    {cs : Str} (hcs : Compact X.U cs) :
    clean X.U (overlayAll e (withChecksum (splitComps X e vs) cs) Component.all (zeros e)) =
      overlayAll e (withChecksum (splitComps X e vs) cs) Component.all (zeros e) :=
  clean_of_compact
    (compact_overlayAll e _ (compact_withChecksum (compact_splitComps X hU e vs) hcs) _ _
      (compact_zeros hU _))

/-- `hfit` — no component is longer than its field — is what the three length guards of
    `from_components` establish for bank, branch and account code. -/
theorem fromComponents_placement {e : Country} (hW : e.WF) (c : Comps) {cs b : Str}
    (hge : ∀ k, (e.range k).length ≤ (c k).length)
    (hfit : ∀ k, k ≠ .nationalChecksumDigits → (c k).length ≤ (e.range k).length)
    (hb : b = overlayAll e (withChecksum c cs) Component.all (zeros e))
    (hlen : b.length = e.bbanLength) :
    (∀ k, k ≠ .nationalChecksumDigits → (e.range k).cut b = c k) ∧
    ((e.range .nationalChecksumDigits).isEmpty = false → (e.range .nationalChecksumDigits).cut b =
      withChecksum c cs .nationalChecksumDigits) := by
  have hz : (zeros e).length = e.bbanLength := List.length_replicate
  have hw : ∀ k, k ≠ .nationalChecksumDigits →
      (withChecksum c cs k).length = (e.range k).length := fun k hk => by
    rw [withChecksum_of_ne _ _ hk]
    exact Nat.le_antisymm (hfit k hk) (hge k)
  -- the check digits are written last, so the length of the result gives their width
  have hwn : (e.range .nationalChecksumDigits).isEmpty = false →
      (withChecksum c cs .nationalChecksumDigits).length =
        (e.range .nationalChecksumDigits).length := fun hne => by
    have ⟨h7, _, _⟩ := overlayAll_spec hW (withChecksum c cs) (Component.all.take 7)
      (zeros e) (by decide) hz (fun k hk _ => hw k (by rintro rfl; exact absurd hk (by decide)))
    have ⟨hr, hs⟩ := hW.range_le .nationalChecksumDigits
    have := overlay_length_add
      (overlayAll e (withChecksum c cs) (Component.all.take 7) (zeros e))
      _ (withChecksum c cs .nationalChecksumDigits) (by omega) hr
    rw [hb, show Component.all = Component.all.take 7 ++ [.nationalChecksumDigits] from rfl,
      overlayAll_append] at hlen
    simp only [overlayAll, hne, Bool.false_eq_true, ↓reduceIte] at hlen
    rw [hlen, h7] at this
    simp only [Range.length]; omega
  have ⟨_, hs, _⟩ := overlayAll_spec hW (withChecksum c cs) Component.all (zeros e)
    (by decide) hz (fun k _ hne => by
      by_cases hk : k = .nationalChecksumDigits
      · subst hk; exact hwn hne
      · exact hw k hk)
  rw [← hb] at hs
  refine ⟨fun k hk => ?_, hs _ (by decide)⟩
  cases hq : (e.range k).isEmpty with
  | false => exact (hs k k.mem_all hq).trans (withChecksum_of_ne _ _ hk)
  | true =>
    -- no field: the range is `[0,0)`, and `hfit` leaves the component no room
    have := hfit k hk
    rw [Range.eq_zero_of_isEmpty hq] at this ⊢
    exact (List.eq_nil_of_length_eq_zero (Nat.le_zero.mp this)).symm

/-- The `<country>:default` entry of the algorithm table, if any, is a national algorithm class. -/
def Props.C08.defaultsNat (A : AlgoTable) (cc : Str) : Prop :=
  ∀ a, A.get (defaultKey cc) = some a → ∃ n, a.ref = .nat n

open Props.C08 (defaultsNat)

theorem computeNational_no_crash (X : Ctx) {cc : Str} (hA : defaultsNat X.A cc) (c : Comps) :
    (computeNationalChecksum X cc c).isCrash = false := by
  unfold computeNationalChecksum
  cases ha : X.A.get (cc ++ [colon] ++ strDefault) with
  | none => rfl
  | some a =>
    obtain ⟨n, hn⟩ := hA a ha
    simp only [hn, AlgoRef.compute]
    exact Res.translate_sat (NatAlgo.compute_sat X.U n _) _

theorem computeNational_ok (X : Ctx) {cc : Str} (hA : defaultsNat X.A cc) {c : Comps} {cs : Str}
    (h : computeNationalChecksum X cc c = .ok cs) :
    match X.A.get (defaultKey cc) with
    | none => cs = []
    | some a => ∃ n, a.ref = .nat n ∧ n.compute X.U (a.accepts.map c) = .ok cs := by
  unfold computeNationalChecksum at h
  rw [show cc ++ [colon] ++ strDefault = defaultKey cc from rfl] at h
  cases ha : X.A.get (defaultKey cc) with
  | none => rw [ha] at h; cases h; rfl
  | some a =>
    obtain ⟨n, hn⟩ := hA a ha
    rw [ha] at h
    simp only [hn, AlgoRef.compute, Res.translate_eq_ok] at h
    exact ⟨n, hn, h⟩

theorem computeNational_compact (X : Ctx) (hU : X.U.WF) {cc : Str} (hA : defaultsNat X.A cc)
    (c : Comps) {cs : Str} (h : computeNationalChecksum X cc c = .ok cs) : Compact X.U cs := by
  have := computeNational_ok X hA h
  split at this
  · rw [this]; exact compact_nil
  · obtain ⟨n, _, hc⟩ := this
    exact compact_of_allAlnum hU (Res.sat_ok (NatAlgo.compute_sat X.U n _) hc).1

theorem fromComponents_no_crash (X : Ctx) {cc : Str} (hA : defaultsNat X.A cc)
    (vs : List (Component × Str)) : (BBAN.fromComponents X cc vs).isCrash = false := by
  rw [fromComponents_eq]
  cases X.T.lookup cc with
  | none => rfl
  | some e =>
    exact Res.isCrash_ite rfl (Res.isCrash_ite rfl (Res.isCrash_ite rfl (Res.isCrash_ite rfl
      (Res.isCrash_bind (computeNational_no_crash X hA _) fun _ => rfl))))

theorem fromComponents_compact (X : Ctx) (hU : X.U.WF) {cc b : Str} {vs : List (Component × Str)}
    (h : BBAN.fromComponents X cc vs = .ok b) : Compact X.U b := by
  obtain ⟨_, _, _, _, _, _, _, hb⟩ := fromComponents_ok X h
  rw [hb]; exact compact_clean hU _

/-- The three guards of `from_components` cover bank, branch and account code; `hother` is what the
    caller knows about the components it does not guard. -/
theorem fromComponents_readback (X : Ctx) (hU : X.U.WF) (hT : X.T.WF) {cc : Str}
    (hA : defaultsNat X.A cc) {vs : List (Component × Str)} {b : Str} {e : Country}
    (h : BBAN.fromComponents X cc vs = .ok b) (hl : X.T.lookup cc = some e)
    (hlen : b.length = e.bbanLength)
    (hother : ∀ k, k ≠ .bankCode → k ≠ .branchCode → k ≠ .accountCode → k ≠ .nationalChecksumDigits →
      (clean X.U (valuesGet vs k)).length ≤ (e.range k).length) :
    ∃ cs, computeNationalChecksum X cc (splitComps X e vs) = .ok cs ∧
      (∀ k, k ≠ .nationalChecksumDigits → (e.range k).cut b = splitComps X e vs k) ∧
      ((e.range .nationalChecksumDigits).isEmpty = false → (e.range .nationalChecksumDigits).cut b =
        withChecksum (splitComps X e vs) cs .nationalChecksumDigits) := by
  obtain ⟨e', cs, hl', hb1, hb2, hb3, hcs, hbeq⟩ := fromComponents_ok X h
  obtain rfl : e = e' := Option.some.inj (hl.symm.trans hl')
  refine ⟨cs, hcs, fromComponents_placement (hT.of_lookup hl) _ (splitComps_ge X e vs) (fun k hk => ?_)
    (hbeq.trans (clean_assembled X hU e vs (computeNational_compact X hU hA _ hcs))) hlen⟩
  by_cases h1 : k = .bankCode
  · subst h1; exact hb1
  by_cases h2 : k = .branchCode
  · subst h2; exact hb2
  by_cases h3 : k = .accountCode
  · subst h3; exact hb3
  exact splitComps_fits X e vs h1 h2 (hother k h1 h2 h3 hk)

end SV
